import TT.Model.Rules
import TT.Lemmas.Rules
/-!
# C04  Connection filtering rules: first match wins, fail closed, enforced early
-/
namespace TT.Rules
open TT

/-- **First match wins**: the verdict is the action of the first rule, in file order, that
matches; rules after it are irrelevant (when a client random is available or no rule needs one). -/
theorem first_match_wins (pre : List Rule) (r : Rule) (post : List Rule) (ip : Addr) (random : Option Bytes)
    (hpre : ∀ q ∈ pre, q.matches ip random = false) (hr : r.matches ip random = true)
    (hrand : random.isSome ∨ ∀ q ∈ pre ++ r :: post, q.pattern = none) :
    evaluate (pre ++ r :: post) ip random = r.action.toVerdict := by
  simp [evaluate_eq_firstMatch hrand, firstMatch, List.find?_append, find?_matches_none hpre, hr]

/-- **Default allow** when no rule matches -/
theorem default_allow (rules : List Rule) (ip : Addr) (random : Option Bytes)
    (h : ∀ q ∈ rules, q.matches ip random = false)
    (hrand : random.isSome ∨ ∀ q ∈ rules, q.pattern = none) :
    evaluate rules ip random = .allow := by
  simp [evaluate_eq_firstMatch hrand, firstMatch, find?_matches_none h]

/-- **Fail closed**: if any rule needs a client random and none is available, deny -/
theorem fail_closed_without_random (rules : List Rule) (ip : Addr) (r : Rule) (hr : r ∈ rules)
    (hp : r.pattern.isSome) : evaluate rules ip none = .deny := by
  have : rules.any (fun q => q.pattern.isSome) = true := List.any_eq_true.2 ⟨r, hr, hp⟩
  simp [evaluate, this]

/-- **Prefix semantics**: a pattern without mask matches iff the random starts with the decoded bytes -/
theorem prefix_semantics (pat : List Char) (p random : Bytes) (hs : splitSlash pat = none)
    (hd : hexDecode pat = some p) :
    patternMatches pat random = some (p.isPrefixOf random) := by
  simp [patternMatches, hs, hd]

/-- **Mask semantics**: `prefix/mask` with equal lengths not longer than the random matches iff
every byte agrees under the mask (bitwise), and an empty pattern never matches -/
theorem mask_semantics (pat pre mask : List Char) (p m random : Bytes)
    (hs : splitSlash pat = some (pre, mask)) (hp : hexDecode pre = some p) (hm : hexDecode mask = some m)
    (hl : m.length = p.length) (hr : p.length ≤ random.length) :
    patternMatches pat random = some (decide (0 < p.length) &&
      (List.range p.length).all (fun i => (random.getD i 0 &&& m.getD i 0) == (p.getD i 0 &&& m.getD i 0))) := by
  have hn : min (min m.length p.length) random.length = p.length := by
    rw [hl, Nat.min_self, Nat.min_eq_left hr]
  simp only [patternMatches, hs, hp, hm, hn]
  rw [maskedEq_eq_all hr (Nat.le_of_eq hl.symm) (Nat.le_refl _)]

/-- unequal lengths: only the common leading part is compared (documented behaviour of the code;
the property fixes only the equal-length case) -/
theorem mask_truncation (pat pre mask : List Char) (p m random : Bytes)
    (hs : splitSlash pat = some (pre, mask)) (hp : hexDecode pre = some p) (hm : hexDecode mask = some m) :
    patternMatches pat random = some (decide (0 < min (min m.length p.length) random.length) &&
      maskedEq (min (min m.length p.length) random.length) random m p) := by
  simp [patternMatches, hs, hp, hm]

/-- **Malformed fields never match**: an unparsable CIDR or a pattern that is not valid hex
(odd length, non-hex characters, on either side of the slash) makes the rule match nothing -/
theorem malformed_never_matches (r : Rule) (ip : Addr) (random : Option Bytes)
    (h : r.cidr = .invalid ∨ ∃ pat rnd, r.pattern = some pat ∧ random = some rnd ∧ patternMatches pat rnd = none) :
    r.matches ip random = false := by
  rcases h with h | ⟨pat, rnd, h1, h2, h3⟩
  · simp [Rule.matches, h]
  · unfold Rule.matches
    cases hc : r.cidr <;> simp [h1, h2, h3]

example : patternMatches "aabbcc/".toList [0xaa, 0xbb, 0xcc] = some false := by decide
example : patternMatches "abc".toList [0xab, 0xc0] = none := by decide
example : patternMatches "a0b0/f0f0".toList [0xa5, 0xb5, 0xcc] = some true := by decide

/-- **The verdict is about the peer's actual address**: an IPv4 peer seen through a dual-stack
listener as `::ffff:a.b.c.d` gets the verdict of `a.b.c.d` -/
theorem mapped_peer_eq_v4_peer (rules : List Rule) (n : Nat) (hn : n < 2 ^ 32) (random : Option Bytes) :
    evaluateConnection (some rules) (some (.v6 (0xffff * 2 ^ 32 + n))) random =
    evaluateConnection (some rules) (some (.v4 n)) random := by
  have e1 : (0xffff * 2 ^ 32 + n) / 2 ^ 32 = 0xffff := by omega
  have e2 : (0xffff * 2 ^ 32 + n) % 2 ^ 32 = n := Nat.mul_add_mod_of_lt hn
  simp [evaluateConnection, canonical, e1, e2]

/-- CIDR containment is prefix equality: for IPv4, `a/len` contains `m` iff the leading `len` bits agree -/
theorem cidr_v4_contains (n m len : Nat) :
    cidrContains (.v4 n) len (.v4 m) = true ↔ n / 2 ^ (32 - len) = m / 2 ^ (32 - len) := by
  simp [cidrContains]

theorem cidr_family_mismatch (n m len : Nat) :
    cidrContains (.v4 n) len (.v6 m) = false ∧ cidrContains (.v6 n) len (.v4 m) = false := by
  simp [cidrContains]

/-- **Enforced early**: on TCP a denied connection is dropped before the endpoint writes its
first TLS byte; on QUIC before any codec exists / request is processed -/
theorem deny_precedes_handshake (hasSni : Bool) :
    Step.tlsAccept ∉ tcpAcceptPath hasSni .deny ∧ Step.serveRequests ∉ tcpAcceptPath hasSni .deny ∧
    Step.createCodec ∉ quicAcceptPath .deny ∧ Step.serveRequests ∉ quicAcceptPath .deny := by
  cases hasSni <;> decide

/-- in the allowed case the rules are evaluated before the handshake is answered -/
theorem rules_before_accept :
    (tcpAcceptPath true .allow).idxOf Step.evalRules < (tcpAcceptPath true .allow).idxOf Step.tlsAccept := by
  decide

/-- **Rules behind a matching rule are irrelevant**, whatever precedes it: replacing everything
after a rule that matches the connection leaves the verdict unchanged -/
theorem rules_after_a_match_irrelevant (pre post post' : List Rule) (r : Rule) (ip : Addr) (rnd : Bytes)
    (hr : r.matches ip (some rnd) = true) :
    evaluate (pre ++ r :: post) ip (some rnd) = evaluate (pre ++ r :: post') ip (some rnd) := by
  simp [evaluate, firstMatch, List.find?_append, hr]

/-- **A catch-all deny closes the list**: a first rule without CIDR and without pattern whose action
is deny denies every connection, with or without a client random, whatever follows it -/
theorem catch_all_deny_first (rules : List Rule) (ip : Addr) (random : Option Bytes) :
    evaluate (⟨.absent, none, .deny⟩ :: rules) ip random = .deny := by
  unfold evaluate
  split
  · rfl
  · simp [firstMatch, Rule.matches, Action.toVerdict]

/-- ... and a trailing catch-all deny turns the default into deny: a connection no earlier rule
matches is denied -/
theorem catch_all_deny_last (rules : List Rule) (ip : Addr) (rnd : Bytes)
    (h : ∀ q ∈ rules, q.matches ip (some rnd) = false) :
    evaluate (rules ++ [⟨.absent, none, .deny⟩]) ip (some rnd) = .deny := by
  have := first_match_wins rules ⟨.absent, none, .deny⟩ [] ip (some rnd) h (by simp [Rule.matches]) (Or.inl rfl)
  simpa [Action.toVerdict] using this

/-- without a rules engine every connection is allowed -/
theorem no_engine_allows (ip : Option Addr) (random : Option Bytes) :
    evaluateConnection none ip random = .allow := by
  simp [evaluateConnection]

example : evaluate [⟨.net (.v4 0x0a000000) 8, none, .allow⟩, ⟨.absent, none, .deny⟩] (.v4 0x0a010203) (some [1]) = .allow ∧
    evaluate [⟨.net (.v4 0x0a000000) 8, none, .allow⟩, ⟨.absent, none, .deny⟩] (.v4 0x0b010203) (some [1]) = .deny := by decide

end TT.Rules
