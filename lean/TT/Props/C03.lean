import TT.Model.Ip
import TT.Lemmas.Ip
/-!
# C03  Private-network egress policy is exact for every destination spelling

The model (`TT/Model/Ip.lean`) transcribes `is_global_ip*` and the destination selection of
`TcpForwarder::connect`; the correspondence suite `c03` evaluates the real classifier on all 2^32
IPv4 addresses and on structural classes of IPv6 addresses and runs the real `connect()` with
scripted resolver answers.
-/
namespace TT.Ip

/-- Octets come from `u8`, hextets from `u16`. -/
def V6.WF (x : V6) : Prop :=
  x.s0 < 65536 ∧ x.s1 < 65536 ∧ x.s2 < 65536 ∧ x.s3 < 65536 ∧
  x.s4 < 65536 ∧ x.s5 < 65536 ∧ x.s6 < 65536 ∧ x.s7 < 65536

def Ip.WF : Ip → Prop
  | .v4 a b c d => a < 256 ∧ b < 256 ∧ c < 256 ∧ d < 256
  | .v6 x => x.WF

/-- **IPv4, all 2^32 addresses**: the classifier refuses exactly the IANA blocks the property
names (0/8, 10/8, 100.64/10, 127/8, 169.254/16, 172.16/12, 192.0.0/24 minus .9 and .10,
192.0.2/24, 192.168/16, 198.18/15, 198.51.100/24, 203.0.113/24, 240/4 incl. broadcast) and
nothing else. -/
theorem v4_exact (a b c d : Nat) (ha : a < 256) (hb : b < 256) (hc : c < 256) (hd : d < 256) :
    isGlobalV4 a b c d = !v4Blocked (toN a b c d) := by
  rw [Bool.eq_iff_iff, isGlobalV4_iff_oct ha hb hc hd, ← v4Blocked_iff ha hb hc hd, Bool.not_eq_true',
    Bool.not_eq_true]

/-- non-vacuity / sanity: sample points on both sides of block boundaries -/
example : isGlobalV4 8 8 8 8 = true ∧ isGlobalV4 127 0 0 1 = false ∧ isGlobalV4 192 0 0 9 = true
    ∧ isGlobalV4 192 0 0 8 = false ∧ isGlobalV4 100 63 255 255 = true ∧ isGlobalV4 100 64 0 0 = false
    ∧ isGlobalV4 239 255 255 255 = true ∧ isGlobalV4 255 255 255 255 = false := by decide +kernel

/-- **IPv6 unicast, not IPv4-mapped**: refused exactly for ::1, ::, fe80::/10, fc00::/7 and
2001:db8::/32 - every other unicast address is allowed (so 2001:4860:4860::8888 is, and fd0e::1,
fe8e::1 are not). -/
theorem v6_unicast_exact (x : V6) (hw : x.WF) (hm : v6Mapped x = none) (hu : v6IsMulticast x = false) :
    isGlobalV6 x = !v6UnicastBlocked x := by
  obtain ⟨h0, -⟩ := hw
  -- fe80::/10: the upper 10 of the 16 bits are 0x3fa; fc00::/7: the upper 7 are 0x7e
  have e1 : ((x.s0 &&& 0xffc0) == 0xfe80) = (decide (0xfe80 ≤ x.s0) && decide (x.s0 ≤ 0xfebf)) :=
    mask_test 6 10 0x3fa h0
  have e2 : ((x.s0 &&& 0xfe00) == 0xfc00) = (decide (0xfc00 ≤ x.s0) && decide (x.s0 ≤ 0xfdff)) :=
    mask_test 9 7 0x7e h0
  simp only [isGlobalV6, hm, hu, isUnicastGlobalV6, v6UnicastBlocked, e1, e2, Bool.false_eq_true, if_false,
    Bool.false_or]
  -- the same five classes in another order
  congr 1
  ac_rfl

example : isGlobalV6 ⟨0x2001, 0x4860, 0x4860, 0, 0, 0, 0, 0x8888⟩ = true
    ∧ isGlobalV6 ⟨0xfd0e, 0, 0, 0, 0, 0, 0, 1⟩ = false
    ∧ isGlobalV6 ⟨0xfe8e, 0, 0, 0, 0, 0, 0, 1⟩ = false
    ∧ isGlobalV6 ⟨0, 0, 0, 0, 0, 0, 0, 1⟩ = false := by decide +kernel

theorem hi_byte (a b : Nat) (hb : b < 256) : (a * 256 + b) / 256 = a := by omega
theorem lo_byte (a b : Nat) (hb : b < 256) : (a * 256 + b) % 256 = b := Nat.mul_add_mod_of_lt hb

/-- **IPv4-mapped IPv6**: `::ffff:a.b.c.d` is classified exactly as `a.b.c.d`. -/
theorem v6_mapped_consistent (a b c d : Nat) (ha : a < 256) (hb : b < 256) (hc : c < 256) (hd : d < 256) :
    isGlobalV6 ⟨0, 0, 0, 0, 0, 0xffff, a * 256 + b, c * 256 + d⟩ = isGlobalV4 a b c d := by
  simp [isGlobalV6, v6Mapped, hi_byte a b hb, lo_byte a b hb, hi_byte c d hd, lo_byte c d hd]

/-- hence a mapped address is refused iff the embedded IPv4 address is in a listed block -/
theorem v6_mapped_exact (a b c d : Nat) (ha : a < 256) (hb : b < 256) (hc : c < 256) (hd : d < 256) :
    isGlobalV6 ⟨0, 0, 0, 0, 0, 0xffff, a * 256 + b, c * 256 + d⟩ = !v4Blocked (toN a b c d) := by
  rw [v6_mapped_consistent a b c d ha hb hc hd, v4_exact a b c d ha hb hc hd]

example : isGlobalV6 ⟨0, 0, 0, 0, 0, 0xffff, 0x7f00, 0x0001⟩ = false
    ∧ isGlobalV6 ⟨0, 0, 0, 0, 0, 0xffff, 0x0a00, 0x0001⟩ = false
    ∧ isGlobalV6 ⟨0, 0, 0, 0, 0, 0xffff, 0x0808, 0x0808⟩ = true := by decide +kernel

/-! ### Destination selection (`TcpForwarder::connect`) -/

/-- the loop only ever yields a `suitable` element of the answer list which is global (or the
policy allows everything), has an admissible family, and all *earlier* admissible answers were
non-global: i.e. it is the first suitable answer. -/
theorem selectLoop_suitable (allow v6ok : Bool) :
    ∀ (l : List Sock) (st : Option Sel) (a : Sock), (∀ b, st ≠ some (.suitable b)) →
      selectLoop allow v6ok st l = some (.suitable a) →
      ∃ pre post, l = pre ++ a :: post ∧ (isGlobal a.ip || allow) = true ∧
        (a.ip.isV6 && !v6ok) = false ∧
        ∀ b ∈ pre, (b.ip.isV6 && !v6ok) = true ∨ (isGlobal b.ip || allow) = false := by
  intro l st a hst h
  cases hf : l.find? (suitable allow v6ok) with
  | none => exact absurd h (selectLoop_of_none hst (List.find?_eq_none.1 hf))
  | some a' =>
    rw [selectLoop_of_find st hf] at h
    cases h
    obtain ⟨ha, pre, post, e, hpre⟩ := List.find?_eq_some_iff_append.1 hf
    simp only [suitable, Bool.and_eq_true, Bool.not_eq_true'] at ha
    exact ⟨pre, post, e, ha.2, ha.1, fun b hb => by simpa [suitable] using hpre b hb⟩

/-- **No connection attempt to a non-global address** when private networks are disallowed,
for literals and for every resolver answer in every order; and the address connected to is
the very address that passed the check (an element of the single resolver answer). -/
theorem connect_only_global (v6ok : Bool) (dst : Dest) (a : Sock)
    (h : connectDecision false v6ok dst = .connect a) :
    isGlobal a.ip = true ∧
    (match dst with
     | .addr lit => a = lit
     | .host none => False
     | .host (some answers) => ∃ pre post, answers = pre ++ a :: post ∧
         (a.ip.isV6 && !v6ok) = false ∧
         ∀ b ∈ pre, (b.ip.isV6 && !v6ok) = true ∨ isGlobal b.ip = false) := by
  match dst, h with
  | .addr lit, h =>
    simp only [connectDecision, Bool.not_false, Bool.true_and] at h
    split at h
    · split at h <;> cases h
    · next hg => cases h; exact ⟨by simpa using hg, rfl⟩
  | .host none, h => cases h
  | .host (some answers), h =>
    simp only [connectDecision] at h
    -- three of the four results of the loop are not `connect`: `cases h` closes those and leaves the suitable answer
    split at h <;> cases h
    next hb =>
    obtain ⟨pre, post, e, h1, h2, h3⟩ := selectLoop_suitable false v6ok answers none a (by intro b; simp) hb
    simp only [Bool.or_false] at h1 h3
    exact ⟨h1, pre, post, e, h2, h3⟩

/-- **A globally routable literal destination is never refused by the policy** -/
theorem global_literal_never_refused (allow v6ok : Bool) (lit : Sock) (hg : isGlobal lit.ip = true) :
    connectDecision allow v6ok (.addr lit) = .connect lit := by
  simp [connectDecision, hg]

theorem selectLoop_finds (allow v6ok : Bool) :
    ∀ (l : List Sock) (st : Option Sel), (∃ a ∈ l, (a.ip.isV6 && !v6ok) = false ∧ isGlobal a.ip = true) →
      ∃ b, selectLoop allow v6ok st l = some (.suitable b) := by
  intro l st ⟨a, ha, h1, h2⟩
  cases hf : l.find? (suitable allow v6ok) with
  | none => simpa [suitable, h1, h2] using List.find?_eq_none.1 hf a ha
  | some b => exact ⟨b, selectLoop_of_find st hf⟩

/-- ... and a host name with at least one admissible globally routable answer is connected -/
theorem global_host_never_refused (allow v6ok : Bool) (answers : List Sock)
    (h : ∃ a ∈ answers, (a.ip.isV6 && !v6ok) = false ∧ isGlobal a.ip = true) :
    ∃ b, connectDecision allow v6ok (.host (some answers)) = .connect b := by
  obtain ⟨b, hb⟩ := selectLoop_finds allow v6ok answers none h
  exact ⟨b, by simp [connectDecision, hb]⟩

/-- **Refusals are reported, not attempted**: a non-global literal under the restrictive policy
yields the loopback (311) or non-routable (310) outcome and never a connect. -/
theorem literal_refusal (v6ok : Bool) (lit : Sock) (hg : isGlobal lit.ip = false) :
    connectDecision false v6ok (.addr lit) = (if isLoopback lit.ip then .loopback else .nonroutable) := by
  simp [connectDecision, hg]

/-- with the policy switched off (allow = true) every literal is connected as given -/
theorem allow_connects_literal (v6ok : Bool) (lit : Sock) :
    connectDecision true v6ok (.addr lit) = .connect lit := by
  simp [connectDecision]

/-- **A name that resolves only to non-global addresses is refused**, whatever the number and order of
the answers: no connection attempt is made to any of them -/
theorem host_without_global_answer_refused (v6ok : Bool) (answers : List Sock)
    (h : ∀ a ∈ answers, isGlobal a.ip = false) (b : Sock) :
    connectDecision false v6ok (.host (some answers)) ≠ .connect b := by
  intro hb
  obtain ⟨hg, pre, post, e, _, _⟩ := connect_only_global v6ok _ b hb
  have := h b (by rw [e]; simp)
  rw [hg] at this
  cases this

/-- a resolver error or an empty answer is reported as a failure, never connected anywhere -/
theorem no_answer_no_connection (allow v6ok : Bool) :
    connectDecision allow v6ok (.host none) = .resolveFailed ∧
    connectDecision allow v6ok (.host (some [])) = .resolveFailed := by
  simp [connectDecision, selectLoop]

/-- the resolver's answers behind the first suitable one do not matter -/
theorem answers_after_first_suitable_irrelevant (allow v6ok : Bool) (pre post post' : List Sock) (a : Sock)
    (st : Option Sel) (hf : (a.ip.isV6 && !v6ok) = false) (hg : (isGlobal a.ip || allow) = true) :
    selectLoop allow v6ok st (pre ++ a :: post) = selectLoop allow v6ok st (pre ++ a :: post') := by
  have ha : suitable allow v6ok a = true := by simp [suitable, hf, hg]
  have h (post) : (pre ++ a :: post).find? (suitable allow v6ok) = some ((pre.find? (suitable allow v6ok)).getD a) := by
    rw [List.find?_append, List.find?_cons_of_pos ha, Option.or_some]
  rw [selectLoop_of_find st (h post), selectLoop_of_find st (h post')]

example : connectDecision false true (.host (some [⟨.v4 10 0 0 1, 80⟩, ⟨.v4 8 8 8 8, 80⟩]))
    = .connect ⟨.v4 8 8 8 8, 80⟩ := by decide +kernel
example : connectDecision false true (.host (some [⟨.v4 127 0 0 1, 80⟩, ⟨.v4 10 0 0 1, 80⟩])) = .nonroutable := by decide +kernel
example : connectDecision false true (.host (some [⟨.v4 127 0 0 1, 80⟩])) = .loopback := by decide +kernel

end TT.Ip
