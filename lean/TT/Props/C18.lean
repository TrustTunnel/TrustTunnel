import TT.Model.Services
import TT.Lemmas.Services
/-!
# C18  Ping, speedtest and reverse-proxy channels do exactly what is documented
-/
namespace TT.Services

/-- **Precedence** ping > speedtest > reverse proxy > tunnel -/
theorem demux_precedence (cfg : Cfg) (proto : Proto) (r : ReqView) :
    (r.pingMarker = true → select cfg proto r = .ping) ∧
    (r.pingMarker = false → checkSpeedtest cfg r = true → select cfg proto r = .speedtest) ∧
    (r.pingMarker = false → checkSpeedtest cfg r = false → checkReverseProxy cfg proto r = true →
      select cfg proto r = .reverseProxy) ∧
    (r.pingMarker = false → checkSpeedtest cfg r = false → checkReverseProxy cfg proto r = false →
      select cfg proto r = .tunnel) := by
  refine ⟨?_, ?_, ?_, ?_⟩ <;> intros <;> simp_all [select]

/-- decimal rendering of a natural number (spec side: how a client writes `N`: no sign, no
leading zeros) -/
def decimal (n : Nat) : List Char :=
  if h : n < 10 then [Char.ofNat (48 + n)] else decimal (n / 10) ++ [Char.ofNat (48 + n % 10)]
termination_by n
decreasing_by omega

theorem digitsVal_decimal (n : Nat) : digitsVal (decimal n) = some n := by
  fun_induction decimal n with
  | case1 n h =>
    obtain ⟨h1, h2, h3⟩ := digit_char h
    simp [digitsVal, h2, h3, h1]
  | case2 n h ih =>
    obtain ⟨h1, h2, h3⟩ := digit_char (Nat.mod_lt n (by decide : 0 < 10))
    simp only [digitsVal_snoc, ih, Option.bind_some, h2, h3, and_self, if_true, h1, Option.some.injEq]
    omega

theorem decimal_head (n : Nat) : ∃ c rest, decimal n = c :: rest ∧ '0' ≤ c ∧ c ≤ '9' := by
  fun_induction decimal n with
  | case1 n h => exact ⟨_, [], rfl, (digit_char h).2⟩
  | case2 n h ih =>
    obtain ⟨c, rest, hr, hc⟩ := ih
    exact ⟨c, rest ++ _, by rw [hr]; rfl, hc⟩

theorem parseU32_decimal (n : Nat) :
    parseU32 (decimal n) = if n < 4294967296 then some n else none := by
  obtain ⟨c, rest, hr, hc⟩ := decimal_head n
  have := digitsVal_decimal n
  rw [hr] at this ⊢
  exact parseU32_digits hc this

example : decimal 0 = ['0'] ∧ decimal 7 = ['7'] ∧ decimal 100 = "100".toList ∧ decimal 4294967295 = "4294967295".toList := by
  refine ⟨?_, ?_, ?_, ?_⟩ <;> decide +kernel

/-- **Download: accepted iff 1 ≤ N ≤ 100**, and then the announced body is exactly N × 2^20 bytes.
Stated for the paths a client writes, `/<N>mb.bin` with `N` in plain decimal. -/
theorem download_accept_iff (n : Nat) (hn : n < 4294967296) (r : ReqView) (hm : r.method = "GET")
    (hp : r.path = '/' :: (decimal n ++ "mb.bin".toList)) :
    prepareSpeedtest r = (if 1 ≤ n ∧ n ≤ 100 then .download (n * mib) else .bad) := by
  obtain ⟨c, rest, hr, hc⟩ := decimal_head n
  have hsp : stripPrefix speedSegment (decimal n ++ "mb.bin".toList) = none := by
    rw [hr]; exact stripPrefix_speed_digit _ hc
  have hne : (r.method == "GET") = true := beq_iff_eq.2 hm
  have hiff : (0 < n ∧ n ≤ maxDownloadMb) ↔ (1 ≤ n ∧ n ≤ 100) := by
    have : maxDownloadMb = 100 := rfl
    omega
  unfold prepareSpeedtest
  simp only [hp, stripPrefix_slash, hsp, hne, if_true, stripSuffix_append, parseU32_decimal, hn,
    Bool.and_eq_true, decide_eq_true_eq, hiff]

/-- **Exactly N × 2^20 body bytes for every back-pressure pattern**: whatever the client's
acceptance script, the bytes handed over plus the bytes still owed equal the announced total, and
the loop ends only when nothing is owed (a script that keeps accepting something drains it) -/
theorem download_exact (n : Nat) (quotas : List Nat) :
    (downloadLoop n quotas).1 + (downloadLoop n quotas).2 = n := by
  fun_induction downloadLoop n quotas with
  | case1 n => simp
  | case2 => simp
  | case3 n k ks offered acc sent rem h ih =>
    simp only [h] at ih
    simp only
    have : acc ≤ n + 1 := by simp only [acc, offered]; omega
    omega

theorem download_completes (n : Nat) (quotas : List Nat) (hq : ∀ k ∈ quotas, 0 < k) (hl : n ≤ quotas.length) :
    downloadLoop n quotas = (n, 0) := by
  fun_induction downloadLoop n quotas with
  | case1 n => simp at hl; simp [hl]
  | case2 => rfl
  | case3 n k ks offered acc sent rem h ih =>
    have hk : 0 < k := hq k (by simp)
    have hc := chunkSize_pos
    have h1 : 1 ≤ acc := by simp only [acc, offered]; omega
    have h2 : acc ≤ n + 1 := by simp only [acc, offered]; omega
    have := ih (fun k hk => hq k (by simp [hk])) (by simp at hl; omega)
    rw [h] at this
    simp only [Prod.mk.injEq] at this ⊢
    omega

/-- **Upload: accepted iff 1 ≤ L ≤ 120 × 2^20** on `POST /upload.html`, anything else is 400 -/
theorem upload_accept_iff (l : Nat) (hl : l < 4294967296) (r : ReqView) (hm : r.method = "POST")
    (hp : r.path = "/upload.html".toList) (hc : r.contentLength = some (decimal l)) :
    prepareSpeedtest r = (if 1 ≤ l ∧ l ≤ 120 * mib then .upload l else .bad) := by
  have h1 : (r.method == "GET") = false := by rw [hm]; decide
  have h2 : (r.method == "POST") = true := beq_iff_eq.2 hm
  have hiff : (0 < l ∧ l ≤ maxUploadMb * mib) ↔ (1 ≤ l ∧ l ≤ 120 * mib) := by
    have : maxUploadMb = 120 := rfl
    rw [this]
    omega
  unfold prepareSpeedtest
  simp only [hp, upload_slash, upload_speed, bne_self_eq_false, h1, h2, hc, parseU32_decimal, hl, if_true,
    Bool.false_eq_true, if_false, Bool.and_eq_true, decide_eq_true_eq, hiff]

theorem else_400 (r : ReqView) (hm : r.method ≠ "GET" ∧ r.method ≠ "POST") : prepareSpeedtest r = .bad := by
  unfold prepareSpeedtest
  simp [hm.1, hm.2]

theorem post_other_path_400 (r : ReqView) (hm : r.method = "POST") (hp : r.path ≠ "/upload.html".toList)
    (hs : stripPrefix ['/'] r.path = none ∨ ∀ x, stripPrefix ['/'] r.path = some x → stripPrefix speedSegment x = none) :
    prepareSpeedtest r = .bad := by
  have h1 : (r.method == "GET") = false := by rw [hm]; decide
  have h2 : (r.method == "POST") = true := beq_iff_eq.2 hm
  have h3 : (r.path != "/upload.html".toList) = true := by simpa using hp
  unfold prepareSpeedtest
  rcases hs with hs | hs
  · simp only [hs, h1, h2, h3, if_true, Bool.false_eq_true, if_false]
  · cases hx : stripPrefix ['/'] r.path with
    | none => simp only [h1, h2, h3, if_true, Bool.false_eq_true, if_false]
    | some x => simp only [hs x hx, h1, h2, h3, if_true, Bool.false_eq_true, if_false]

/-- the upload is answered once `L` bytes were counted or the client ended the stream -/
theorem upload_done (n : Nat) (chunks : List Nat) : (uploadLoop n chunks).2 = true := by
  fun_induction uploadLoop n chunks <;> simp_all

theorem upload_counts (n : Nat) (chunks : List Nat) (h : n ≤ chunks.sum) : (uploadLoop n chunks).1 = 0 := by
  fun_induction uploadLoop n chunks with
  | case1 => rfl
  | case2 n hn => simp at h; omega
  | case3 n c cs hn ih => apply ih; simp at h; omega

/-- **Reverse proxy**: the translated request carries `X-Original-Protocol` with the client's
protocol, keeps method (except the documented HTTP/3 compatibility rewrite), path and the other
headers -/
theorem x_original_protocol_present (proto : Proto) (c : Bool) (m : String) (p : List Char) (hs : List (String × String)) :
    ("x-original-protocol", protoStr proto) ∈ (translate proto c m p hs).headers ∧
    (translate proto c m p hs).path = p ∧
    (∀ h ∈ hs, h.1 ≠ "x-original-protocol" → h ∈ (translate proto c m p hs).headers) ∧
    (proto ≠ .h3 ∨ c = false → (translate proto c m p hs).method = m) := by
  refine ⟨mem_insertHeader_iff.2 (.inl rfl), rfl, fun h hh hne => mem_insertHeader_iff.2 (.inr ⟨hh, hne⟩), ?_⟩
  · intro h
    unfold translate
    rcases h with h | h
    · have : (proto == Proto.h3) = false := by cases proto <;> simp_all
      simp [this]
    · simp [h]

example : prepareSpeedtest ⟨"GET", "/100mb.bin".toList, false, false, none⟩ = .download (100 * mib) := by decide +kernel
example : prepareSpeedtest ⟨"GET", "/101mb.bin".toList, false, false, none⟩ = .bad := by decide +kernel
example : prepareSpeedtest ⟨"GET", "/0mb.bin".toList, false, false, none⟩ = .bad := by decide +kernel
example : prepareSpeedtest ⟨"GET", "/speed/7mb.bin".toList, false, false, none⟩ = .download (7 * mib) := by decide +kernel

/-- **The origin can trust X-Original-Protocol**: whatever the client put under that name, every header
of that name in the request sent to the origin carries the protocol the client really used -/
theorem original_protocol_not_forgeable (proto : Proto) (c : Bool) (m : String) (p : List Char)
    (hs : List (String × String)) (v : String)
    (h : ("x-original-protocol", v) ∈ (translate proto c m p hs).headers) : v = protoStr proto :=
  (mem_insertHeader_iff.1 h).elim (fun e => (Prod.mk.inj e).2) fun h' => absurd rfl h'.2

/-- a disabled speed test is never selected, and HTTP/2 requests never reach the reverse proxy -/
theorem disabled_channels_never_selected (cfg : Cfg) (proto : Proto) (r : ReqView) :
    (cfg.speedtestEnable = false → select cfg proto r ≠ .speedtest) ∧
    (cfg.pathMask = none → select cfg proto r ≠ .reverseProxy) ∧
    (select cfg .h2 r ≠ .reverseProxy) := by
  refine ⟨fun h hs => ?_, fun h hs => ?_, fun hs => ?_⟩
  · simpa [checkSpeedtest, h] using (select_checked cfg proto r).1 hs
  · simpa [checkReverseProxy, h] using (select_checked cfg proto r).2 hs
  · simpa [checkReverseProxy] using (select_checked cfg .h2 r).2 hs

/-- the download never hands out more than was asked for, however the client takes it -/
theorem download_never_exceeds (n : Nat) (quotas : List Nat) : (downloadLoop n quotas).1 ≤ n :=
  Nat.le.intro (download_exact n quotas)

example : (translate .h3 false "GET" ['/'] [("x-original-protocol", "HTTP1"), ("a", "b")]).headers =
    [("x-original-protocol", "HTTP3"), ("a", "b")] := by decide

end TT.Services
