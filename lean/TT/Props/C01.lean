import TT.Model.Dispatch
import TT.Lemmas.Dispatch
import TT.Props.C13
/-!
# C01  Authentication gate: no egress without valid credentials
-/
namespace TT.Dispatch
open TT TT.Gen

/-- **Gate soundness**: with an authenticator configured a request passes only if its
Proxy-Authorization carries a Basic token the authenticator accepts, or it has no such header
and the connection's SNI credentials were accepted -/
theorem gate_sound (info : AuthInfo) (policy : Policy) (a : Authn) (fa : Option Source)
    (h : gate info policy (some a) = .pass fa) :
    (∃ t, info = .basic t ∧ a.accepts (.proxyBasic t) = true ∧ fa = some (.proxyBasic t)) ∨
    (info = .absent ∧ ∃ src, policy = .authenticated src ∧ fa = some src) := by
  cases info with
  | basic t =>
    rw [gate_basic] at h
    split at h
    · next hacc => cases h; exact .inl ⟨t, rfl, hacc, rfl⟩
    · cases h
  | absent =>
    rw [gate_absent] at h
    cases policy with
    | default_ => cases h
    | authenticated src => cases h; exact .inr ⟨rfl, src, rfl, rfl⟩
  | unreadable => rw [gate_unreadable] at h; cases h

/-- the connection-level policy is `authenticated` only for SNI credentials the authenticator accepted -/
theorem policy_authenticated_only_if_accepted (a : Authn) (sni : Option (List Char)) (src : Source)
    (h : sessionPolicy (some a) sni = some (.authenticated src)) :
    ∃ c, sni = some c ∧ src = .sni c ∧ a.accepts (.sni c) = true := by
  cases sni with
  | none => simp [sessionPolicy] at h
  | some c =>
    simp only [sessionPolicy] at h
    split at h
    · simp at h; exact ⟨c, rfl, h.symm, by assumption⟩
    · simp at h

/-- a connection whose SNI credentials the authenticator rejects is dropped before any request -/
theorem rejected_sni_no_session (a : Authn) (c : List Char) (h : a.accepts (.sni c) = false) :
    sessionPolicy (some a) (some c) = none := by
  simp [sessionPolicy, h]

/-- the registry authenticator accepts exactly the Basic tokens of configured pairs and no SNI source -/
theorem registry_accepts_iff (clients : List Creds.Client) (s : Source) :
    (registryAuthn clients).accepts s = true ↔
      ∃ t, s = .proxyBasic t ∧ ∃ c ∈ clients, t = Creds.credToken c.user c.pass := by
  cases s with
  | sni c => simp [registryAuthn]
  | proxyBasic t => simp [registryAuthn, Creds.accepted_iff_listed]

/-- **Everything else is answered 407 with a Basic challenge and causes no outbound traffic** -/
theorem reject_is_407_no_egress (r : Req) (policy : Policy) (authn : Option Authn) (env : Env)
    (h : gate (authInfo r.authHdr) policy authn = .reject) :
    handle r policy authn env = [.response ⟨407, [.challenge]⟩] := by
  simp [handle, h, failWith, statusOf, warnOf]

/-- **No egress and no 200 without a pass**: any outbound action (TCP connect, UDP / ICMP
multiplexer, upstream authentication) and any 200 (health check included) belongs to a request
that passed the gate -/
theorem egress_only_after_pass (r : Req) (policy : Policy) (authn : Option Authn) (env : Env) (e : Event)
    (he : e ∈ handle r policy authn env) (hk : (∃ x, e = .egress x) ∨ e = ok200) :
    ∃ fa, gate (authInfo r.authHdr) policy authn = .pass fa := by
  cases hg : gate (authInfo r.authHdr) policy authn with
  | pass fa => exact ⟨fa, rfl⟩
  | reject =>
    rw [reject_is_407_no_egress r policy authn env hg] at he
    rcases hk with ⟨x, rfl⟩ | rfl <;> simp [ok200] at he

/-- the two statements combined, for a configured registry: an egress or a 200 implies the
request carried the token of a configured pair, or it carried no header on an SNI-authenticated
connection (which a registry never grants) -/
theorem registry_no_egress_without_credentials (clients : List Creds.Client) (r : Req) (sni : Option (List Char))
    (policy : Policy) (hp : sessionPolicy (some (registryAuthn clients)) sni = some policy) (env : Env) (e : Event)
    (he : e ∈ handle r policy (some (registryAuthn clients)) env) (hk : (∃ x, e = .egress x) ∨ e = ok200) :
    ∃ t, authInfo r.authHdr = .basic t ∧ ∃ c ∈ clients, t = Creds.credToken c.user c.pass := by
  obtain ⟨fa, hg⟩ := egress_only_after_pass r policy _ env e he hk
  rcases gate_sound _ _ _ _ hg with ⟨t, ht, hacc, -⟩ | ⟨-, src, hsrc, -⟩
  · obtain ⟨t', ht', hc⟩ := (registry_accepts_iff clients _).1 hacc
    cases ht'
    exact ⟨t, ht, hc⟩
  · subst hsrc
    obtain ⟨c, -, rfl, hacc⟩ := policy_authenticated_only_if_accepted _ _ _ hp
    simp [registryAuthn] at hacc

/-- **Per-request decision**: on a session every request is decided on its own - what request
`i` gets does not depend on the other requests, in particular not on an earlier accepted one -/
theorem decision_history_independent (policy : Policy) (authn : Option Authn) (pre post : List (Req × Env))
    (r : Req) (env : Env) :
    (session policy authn (pre ++ (r, env) :: post))[pre.length]? = some (handle r policy authn env) := by
  simp [session]

/-- header forms: only `Basic <token>` in visible ASCII is credentials; other schemes, a missing
space, another letter case or non-ASCII bytes are unreadable, hence rejected whatever the policy -/
theorem unreadable_always_rejected (policy : Policy) (authn : Option Authn) :
    gate .unreadable policy authn = .reject :=
  gate_unreadable policy authn

/-- **Completeness of the gate**: a request carrying the token of a configured pair passes, on every
connection (whatever its SNI policy) - configured clients are never turned away by the gate -/
theorem configured_client_passes (clients : List Creds.Client) (c : Creds.Client) (hc : c ∈ clients) (policy : Policy) :
    gate (.basic (Creds.credToken c.user c.pass)) policy (some (registryAuthn clients)) =
      .pass (some (.proxyBasic (Creds.credToken c.user c.pass))) := by
  have h : (registryAuthn clients).accepts (.proxyBasic (Creds.credToken c.user c.pass)) = true :=
    (registry_accepts_iff clients _).2 ⟨_, rfl, c, hc, rfl⟩
  rw [gate_basic, if_pos h]

/-- **A presented token is what counts**: a request whose Basic token the authenticator rejects is
rejected even on a connection whose SNI credentials were accepted - accepted connection-level
credentials are no fallback for a wrong header -/
theorem wrong_token_rejected_on_authenticated_connection (a : Authn) (t : List Char) (policy : Policy)
    (h : a.accepts (.proxyBasic t) = false) : gate (.basic t) policy (some a) = .reject := by
  rw [gate_basic, if_neg (Bool.eq_false_iff.1 h)]

example : authInfo (some [66, 101, 97, 114, 101, 114, 32, 120]) = .unreadable := by decide  -- "Bearer x"
example : authInfo (some [98, 97, 115, 105, 99, 32, 100, 84, 112, 119]) = .unreadable := by decide  -- "basic dTpw"
example : authInfo (some [66, 97, 115, 105, 99, 32, 0xff]) = .unreadable := by decide
example : authInfo (some [66, 97, 115, 105, 99, 32, 100, 84, 112, 119]) = .basic "dTpw".toList := by decide  -- "Basic dTpw"

end TT.Dispatch
