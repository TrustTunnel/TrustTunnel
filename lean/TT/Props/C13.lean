import TT.Model.Creds
import TT.Lemmas.Creds
import TT.Model.SettingsKeys
import TT.Lemmas.SettingsKeys
/-!
# C13  Configured credentials and settings mean exactly what the files say
-/
namespace TT.Creds
open TT

/-- **Round trip of any string through a basic-string lexeme**: whatever the user name or
password (quotes, backslashes, control characters, Unicode, leading/trailing spaces), writing it
as an escaped basic string and reading it back as the endpoint does yields the same string -/
theorem decode_encode_basic (s : List Char) : decodeLexeme (encodeBasic s) = .str s := by
  cases s with
  | nil => decide
  | cons c s =>
    have hlen := length_le_flatMap_escape (c :: s)
    have hdec := decodeBasic_escape (c :: s) [] (((c :: s).flatMap escapeChar ++ ['"']).length + 1)
      (by simp only [List.length_append, List.length_cons, List.length_nil] at hlen ⊢; omega)
    obtain ⟨d, r, hd, hne⟩ := escapeChar_head c
    simp only [encodeBasic]
    simp only [List.flatMap_cons, hd, List.cons_append] at hdec ⊢
    rw [decodeLexeme_basic d _ hne, hdec]

/-- **Literal strings are taken verbatim** (quotes of the other kind, backslashes and surrounding
whitespace preserved, no escape processing) -/
theorem literal_verbatim (s : List Char) (h : ∀ c ∈ s, c ≠ '\'' ∧ isCtl c = false) :
    decodeLexeme ('\'' :: (s ++ ['\''])) = .str s := by
  have hdec := decodeLiteral_plain s h []
  cases s with
  | nil => decide
  | cons c s =>
    simp only [List.cons_append] at hdec ⊢
    rw [decodeLexeme_literal c _ (h c (by simp)).1, hdec]

/-- plain basic strings (no quote, backslash or control character) are taken verbatim too -/
theorem basic_plain_verbatim (s : List Char) (h : ∀ c ∈ s, c ≠ '"' ∧ c ≠ '\\' ∧ isCtl c = false) :
    decodeLexeme ('"' :: (s ++ ['"'])) = .str s := by
  have := decode_encode_basic s
  rwa [encodeBasic, flatMap_escape_plain s h] at this

example : decodeLexeme "' sp '".toList = .str " sp ".toList := by decide
example : decodeLexeme "\"a\\\"b\"".toList = .str "a\"b".toList := by decide
example : decodeLexeme "\"\\u00e9\"".toList = .str "é".toList := by decide +kernel
example : decodeLexeme "'lit'".toList = .str "lit".toList := by decide

/-- **Empty values are refused**, as are files whose value is not valid TOML or not a string -/
theorem empty_rejected (p : Lex) : loadClient (.str []) p = none ∧ loadClient p (.str []) = none := by
  cases p <;> simp [loadClient]

theorem load_ok_iff (ul pl : Lex) (c : Client) :
    loadClient ul pl = some c ↔ ul = .str c.user ∧ pl = .str c.pass ∧ c.user ≠ [] ∧ c.pass ≠ [] := by
  obtain ⟨u, p⟩ := c
  cases ul <;> cases pl <;> simp [loadClient]
  -- two strings are left: the model's test `u.isEmpty || p.isEmpty` against the two `≠ []`
  case str.str a b =>
    constructor
    · rintro ⟨⟨h1, h2⟩, rfl, rfl⟩; exact ⟨rfl, rfl, h1, h2⟩
    · rintro ⟨rfl, rfl, h1, h2⟩; exact ⟨⟨h1, h2⟩, rfl, rfl⟩

/-- base64 is injective on byte strings, so a token identifies its credentials -/
theorem base64_injective (a b : Bytes) (ha : ∀ x ∈ a, x < 256) (hb : ∀ x ∈ b, x < 256)
    (h : base64 a = base64 b) : a = b := by
  rw [← unbase64_base64 a ha, h, unbase64_base64 b hb]

/-- **Accepted iff listed**: the registry accepts a token iff it is `base64(user:password)` of a
configured pair; nothing else is accepted -/
theorem accepted_iff_listed (clients : List Client) (token : List Char) :
    registryAccepts clients token = true ↔ ∃ c ∈ clients, token = credToken c.user c.pass := by
  simp only [registryAccepts, List.any_eq_true, beq_iff_eq]
  exact exists_congr fun _ => and_congr_right fun _ => eq_comm

/-- ... and the credentials bytes behind an accepted token are exactly a configured
`user:password` (no other byte string produces an accepted token) -/
theorem accepted_token_identifies_pair (clients : List Client) (raw : Bytes) (hr : ∀ x ∈ raw, x < 256)
    (h : registryAccepts clients (base64 raw) = true) :
    ∃ c ∈ clients, raw = utf8 (c.user ++ [':'] ++ c.pass) := by
  obtain ⟨c, hc, h⟩ := (accepted_iff_listed _ _).1 h
  exact ⟨c, hc, base64_injective _ _ hr (utf8_lt _) h⟩

/-- **The endpoint refuses to start** exactly in the documented situations (as far as `Settings`
goes: unset listen address, invalid reverse-proxy section, no listen protocol, no credentials on
a non-loopback address) -/
theorem refuses_to_start_iff (c : ListenCfg) :
    (validate c).isSome = true ↔
      ((c.addrUnspecified = true ∧ c.port = 0) ∨
       (∃ p m, c.reverseProxy = some (p, m) ∧ (p = 0 ∨ m = [] ∨ m.head? ≠ some '/')) ∨
       (c.http1 = false ∧ c.http2 = false ∧ c.quic = false) ∨
       (c.nClients = 0 ∧ c.addrLoopback = false)) := by
  simp only [validate_isSome, Bool.or_eq_true, rpInvalid_iff, Bool.and_eq_true, beq_iff_eq, Bool.not_eq_true', and_assoc]

theorem no_credentials_public_refused (c : ListenCfg) (h0 : c.nClients = 0) (hl : c.addrLoopback = false) :
    (validate c).isSome = true :=
  (refuses_to_start_iff c).2 (Or.inr (Or.inr (Or.inr ⟨h0, hl⟩)))

theorem no_protocol_refused (c : ListenCfg) (h : c.http1 = false ∧ c.http2 = false ∧ c.quic = false) :
    (validate c).isSome = true :=
  (refuses_to_start_iff c).2 (Or.inr (Or.inr (Or.inl h)))

/-- **From the file to the authenticator**: a user name and a password written as TOML basic strings
(any characters: quotes, backslashes, control characters, non-ASCII) are loaded as exactly that pair, and
the registry then accepts exactly the token a client builds from the same two strings -/
theorem file_to_registry (u p : List Char) (hu : u ≠ []) (hp : p ≠ []) :
    loadClient (decodeLexeme (encodeBasic u)) (decodeLexeme (encodeBasic p)) = some ⟨u, p⟩ ∧
    registryAccepts [⟨u, p⟩] (credToken u p) = true := by
  refine ⟨?_, ?_⟩
  · rw [decode_encode_basic, decode_encode_basic]
    exact (load_ok_iff _ _ ⟨u, p⟩).2 ⟨rfl, rfl, hu, hp⟩
  · exact (accepted_iff_listed _ _).2 ⟨⟨u, p⟩, by simp, rfl⟩

/-- a configuration with a set address, a protocol, credentials (or a loopback address) and a sound
reverse-proxy section (or none) starts -/
theorem sound_configuration_starts (c : ListenCfg) (ha : c.addrUnspecified = false ∨ c.port ≠ 0)
    (hp : c.http1 = true ∨ c.http2 = true ∨ c.quic = true) (hc : c.nClients ≠ 0 ∨ c.addrLoopback = true)
    (hr : ∀ p m, c.reverseProxy = some (p, m) → reverseProxyValid p m = true) : validate c = none := by
  rw [← Option.not_isSome_iff_eq_none, refuses_to_start_iff]
  rintro (⟨h1, h2⟩ | ⟨p, m, hpm, hbad⟩ | ⟨h1, h2, h3⟩ | ⟨h1, h2⟩)
  · rcases ha with ha | ha <;> simp_all
  · have := hr p m hpm
    simp [reverseProxyValid] at this
    rcases hbad with h | h | h <;> simp_all
  · rcases hp with hp | hp | hp <;> simp_all
  · rcases hc with hc | hc <;> simp_all

end TT.Creds

/-!
## Keys of the settings files

The table is regenerated from `settings.rs` on every run; the correspondence suite sets every integer and boolean key of
every section (under each of its accepted spellings) in a file and looks which fields of the read-back settings moved.
-/
namespace TT.SettingsKeys

/-- **a key means one field**: within a section no key - name, rename or alias - is accepted for two fields, so what a
file says about a key cannot land anywhere but in the field the key is attached to -/
theorem keys_unambiguous : Unambiguous TT.Gen.settingsKeys = true := settingsKeys_checked.1

/-- **a key means the field it names**: every accepted spelling is the field's own name, a tail of it (the legacy
names without their `initial_` prefix) or the name with its unit (`_secs`); in particular two fields never swap their legacy names -/
theorem keys_name_their_fields : NamesItsField TT.Gen.settingsKeys = true :=
  namesItsField_of_quick settingsKeys_checked.2

/-- the swap of two legacy names is ruled out by `keys_name_their_fields`, not by `keys_unambiguous` (non-vacuity of the second) -/
example :
    let swapped : Table := [("Q", "initial_bidi_local", ["initial_bidi_local", "bidi_remote"]),
                            ("Q", "initial_bidi_remote", ["initial_bidi_remote", "bidi_local"])]
    Unambiguous swapped = true ∧ NamesItsField swapped = false
    ∧ fieldsOf TT.Gen.settingsKeys "QuicSettings" "max_stream_data_bidi_local" = ["initial_max_stream_data_bidi_local"] := by
  decide +kernel

end TT.SettingsKeys
