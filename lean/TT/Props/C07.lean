import TT.Gen.Consts
import TT.Model.UdpFlows
import TT.Lemmas.UdpFlows
import TT.Model.UdpSocks
import TT.Lemmas.UdpSocks
/-!
# C07  UDP flows: correct routing, isolation, expiry and bounded sockets

Every theorem quantifies over *all* histories of {client datagram, server reply, time advance,
close} from the initial state, over all flow sets, destination kinds (live, port 53, dead port,
not connectable), lengths and advance amounts - the expiry timer's firing times are determined
by the advance amounts, so every interleaving of the timer with the operations is covered.

From `TT/Lemmas/UdpFlows.lean` the statements take `after c ops` (the state after a history), `pipeEntry s m` (the
entry of flow `m` in the pipe's table), `touches m op` (the operation concerns flow `m`: a datagram or a reply on it)
and `advSum ops` (the time the advances of a history add up to); those of the SOCKS5 part take the `after` of
`TT/Lemmas/UdpSocks.lean` (again the state after a history).
-/
namespace TT.UdpFlows

/-- the observations of a history -/
def obsOf (c : Cfg) (ops : List Op) : List Obs := (runFrom c ops).2

/-! ## Routing -/

/-- **a client datagram is sent to exactly its destination**: whatever a server receives carries
the tag of a flow whose destination is that server -/
theorem sent_to_own_destination (c : Cfg) (ops : List Op) :
    ∀ o ∈ obsOf c ops, ∀ x ∈ o.srv, x.1 = x.2.1.dst :=
  fun o ho => ((run_out (inv_init c) ops).routed o ho).1

/-- one client datagram reaches at most its own destination, once, unchanged in length, and
nothing is delivered to the client by it -/
theorem datagram_step_output (c : Cfg) (ops : List Op) (m : Meta) (len : Nat) :
    let o := (step c (after c ops) (.dg m len)).2
    (o.srv = [] ∨ o.srv = [(m.dst, m, len)]) ∧ o.cli = [] := by
  dsimp only
  rcases (step_dg_out (runFrom_inv c ops) m len).obs with o | o <;> rw [o]
  · exact ⟨.inl rfl, rfl⟩
  · exact ⟨.inr rfl, rfl⟩

/-- **a datagram arriving on a flow's socket is returned labelled with that flow, never
another**: the flow the labels name is the flow the server answered -/
theorem reply_labelled_with_own_flow (c : Cfg) (ops : List Op) :
    ∀ o ∈ obsOf c ops, ∀ x ∈ o.cli, x.1 = x.2.1 :=
  fun o ho => ((run_out (inv_init c) ops).routed o ho).2

/-- a live flow's reply is delivered (not merely "if delivered then labelled correctly") -/
theorem reply_delivered_on_live_flow (c : Cfg) (ops : List Op) (m : Meta) (len : Nat)
    (hs : (findSock (after c ops) m).isSome)
    (hk : c.kind m.dst = .live ∨ c.kind m.dst = .dns) :
    (step c (after c ops) (.reply m len)).2.cli = [(m, m, len)] := by
  have h := runFrom_inv c ops
  obtain ⟨k, hs⟩ := Option.isSome_iff_exists.1 hs
  rw [step_reply (h.core.running (findSock_some hs).1), stepReply_live h hs hk, replied_snd]

/-! ## The two tables stay coupled; sockets follow flows -/

/-- **the pipe's table and the forwarder's table hold the same flows**, each once; so the
number of open sockets (the `outbound_udp_sockets` gauge) equals the number of live flows -/
theorem tables_coupled (c : Cfg) (ops : List Op) :
    let s := after c ops
    (∀ m, hasPipe s m = (findSock s m).isSome) ∧
    (s.pipe.map (·.key)).Nodup ∧ (s.socks.map (·.key)).Nodup ∧
    s.gauge = s.flows := by
  have h := runFrom_inv c ops
  refine ⟨h.core.coupled, h.core.nodupK, h.core.nodupSK, ?_⟩
  have := congrArg List.length h.core.keys
  simpa [St.gauge, St.flows] using this

/-- every open socket belongs to a flow the client actually sent a datagram on, and is
connected to that flow's destination: the socket count is bounded by the number of distinct
flows in the history -/
theorem sockets_from_history (c : Cfg) (ops : List Op) :
    ∀ k ∈ (after c ops).socks, k.dest = k.key.dst ∧ ∃ len, Op.dg k.key len ∈ ops :=
  fun k hk => ⟨((runFrom_inv c ops).core.sock k hk).1,
    ((run_out (inv_init c) ops).socks k hk).resolve_left List.not_mem_nil⟩

/-! ## Expiry -/

/-- **a flow idle for longer than the timeout is released**: if no operation concerns flow `m`
while more than `timeout + timeout/4` (one timer period) elapses, then afterwards the flow has
neither a table entry nor a socket - wherever the timer ticks fell -/
theorem idle_flow_released (c : Cfg) (pre ops : List Op) (m : Meta)
    (hu : ∀ op ∈ ops, touches m op = false)
    (hd : c.timeout + c.timeout / 4 < advSum ops) :
    let s := after c (pre ++ ops)
    hasPipe s m = false ∧ findSock s m = none := by
  dsimp only
  rw [after_append]
  exact idle_released (runFrom_inv c pre) ops m hu hd

/-- after the timer has fired no entry older than the timeout remains -/
theorem tick_expires_all_idle (c : Cfg) (ops : List Op) (ms : Nat)
    (hf : (after c ops).finished = false)
    (htick : (after c ops).nextTick ≤ (after c ops).now + ms) :
    ∀ e ∈ (after c (ops ++ [.adv ms])).pipe, e.last + c.timeout ≥ (after c ops).now + ms := by
  rw [after_snoc, step_adv hf]
  intro e he
  -- the timer fires (`htick`), and what `expire` leaves in the table has passed its filter
  simp only [stepAdv, if_pos htick, expire] at he
  have := (List.mem_filter.1 he).2
  simp only [Bool.not_eq_true', decide_eq_false_iff_not] at this
  omega

/-- **never early**: a time advance releases only flows idle for longer than the timeout -/
theorem fresh_flow_survives_advance (c : Cfg) (ops : List Op) (ms : Nat) (m : Meta) (e : PipeEntry)
    (he : pipeEntry (after c ops) m = some e)
    (hfresh : (after c ops).now + ms ≤ e.last + c.timeout) :
    let s' := after c (ops ++ [.adv ms])
    pipeEntry s' m = some e ∧ findSock s' m = findSock (after c ops) m := by
  have h := runFrom_inv c ops
  obtain ⟨_, _, hf⟩ := h.core.sock_of_entry he
  dsimp only
  rw [after_snoc, step_adv hf]
  exact stepAdv_fresh h.core.nodupK he hfresh

/-- the timer is never later than a quarter of the timeout -/
theorem tick_period (c : Cfg) (ops : List Op) :
    (after c ops).nextTick ≤ (after c ops).now + c.timeout / 4 :=
  (runFrom_inv c ops).core.tick

/-- **a port-53 flow whose queries have all been answered is released**: the reply that brings
the pending count to zero removes the flow from both tables (and is itself delivered) -/
theorem dns_flow_released_when_answered (c : Cfg) (ops : List Op) (m : Meta) (len : Nat) (e : PipeEntry)
    (he : pipeEntry (after c ops) m = some e) (hp : e.pending = some 1) :
    let r := step c (after c ops) (.reply m len)
    r.2.cli = [(m, m, len)] ∧ hasPipe r.1 m = false ∧ findSock r.1 m = none := by
  have h := runFrom_inv c ops
  dsimp only
  rw [step_reply_dns h he (by rw [hp]; rfl), replied_some he, if_pos (by simp [touchIn, hp])]
  exact ⟨rfl, keep_self _ m⟩

/-- ... and while queries are outstanding it stays, counting down -/
theorem dns_flow_kept_while_pending (c : Cfg) (ops : List Op) (m : Meta) (len n : Nat) (e : PipeEntry)
    (he : pipeEntry (after c ops) m = some e) (hp : e.pending = some (n + 2)) :
    let r := step c (after c ops) (.reply m len)
    r.2.cli = [(m, m, len)] ∧
    pipeEntry r.1 m = some { e with last := (after c ops).now, pending := some (n + 1) } ∧
    findSock r.1 m = findSock (after c ops) m := by
  have ht : touchIn (after c ops).now e
      = ({ e with last := (after c ops).now, pending := some (n + 1) }, false) := by
    simp [touchIn, hp]
  have h := runFrom_inv c ops
  dsimp only
  rw [step_reply_dns h he (by rw [hp]; rfl), replied_some he, ht, if_neg Bool.false_ne_true]
  refine ⟨rfl, ?_, rfl⟩
  exact pipeEntry_update (fun _ => { e with last := (after c ops).now, pending := some (n + 1) })
    (fun _ _ => (pipeEntry_some he).2) he

/-- the pending count of a port-53 flow is the number of queries minus the number of answers
seen since the flow was created: each client datagram on an existing flow adds one -/
theorem dns_query_counts (c : Cfg) (ops : List Op) (m : Meta) (len n : Nat) (e : PipeEntry)
    (he : pipeEntry (after c ops) m = some e) (hp : e.pending = some n)
    (hs : ∀ k, findSock (after c ops) m = some k → k.poisoned = false) :
    pipeEntry (step c (after c ops) (.dg m len)).1 m
      = some { e with last := (after c ops).now, pending := some (n + 1) } := by
  have h := runFrom_inv c ops
  obtain ⟨k, hk, hf⟩ := h.core.sock_of_entry he
  rw [step_dg hf, stepDg_known (by rw [hasPipe_eq, he]; rfl), pipeEntry,
    sinkWrite_pipe (s := touched _ m) hk (hs k hk)]
  exact (pipeEntry_update (touchOut (after c ops).now) (fun _ h => h) he).trans
    (by simp [touchOut, hp])

/-- **a later datagram on the same pair simply starts a fresh flow**: on a connectable
destination, a datagram on a flow that is not in the table creates it in both tables with a
brand-new socket and reaches the destination -/
theorem datagram_starts_fresh_flow (c : Cfg) (ops : List Op) (m : Meta) (len : Nat)
    (hf : (after c ops).finished = false)
    (hn : hasPipe (after c ops) m = false)
    (hk : c.kind m.dst = .live ∨ c.kind m.dst = .dns) :
    let s := after c ops
    let r := step c s (.dg m len)
    r.2.srv = [(m.dst, m, len)] ∧ hasPipe r.1 m = true ∧
    findSock r.1 m = some { key := m, id := s.nextId, dest := m.dst, poisoned := false } ∧
    (∀ k ∈ s.socks, k.id ≠ s.nextId) := by
  have h := runFrom_inv c ops
  have hu : c.kind m.dst ≠ .unconn := by rcases hk with hk | hk <;> simp [hk]
  have hs : findSock (opened c (after c ops) m) m = some ⟨m, (after c ops).nextId, m.dst, false⟩ :=
    List.find?_cons_of_pos (by simp)
  dsimp only
  rw [step_dg hf, stepDg_new hn (h.core.findSock_none hn) hu, sinkWrite_sent hs rfl hk]
  exact ⟨rfl, by simp [hasPipe, opened, touchOut], hs, fun k hk' => Nat.ne_of_lt (h.core.sock k hk').2.1⟩

/-! ## Isolation and confinement of errors -/

/-- **an operation on one flow never disturbs another**: the table entry and the socket of
every other flow are exactly what they were (this covers datagrams to dead or unconnectable
destinations and sends that report a socket error) -/
theorem other_flows_undisturbed (c : Cfg) (ops : List Op) (op : Op) (m m' : Meta)
    (ht : touches m op = true) (hne : m' ≠ m) :
    let s := after c ops
    let s' := (step c s op).1
    pipeEntry s' m' = pipeEntry s m' ∧ findSock s' m' = findSock s m' := by
  cases op with
  | dg m0 len =>
    obtain rfl : m0 = m := by simpa [touches] using ht
    exact (step_dg_out (runFrom_inv c ops) m0 len).loc.other m' hne
  | reply m0 len =>
    obtain rfl : m0 = m := by simpa [touches] using ht
    exact (step_reply_out (runFrom_inv c ops) m0 len).loc.other m' hne
  | adv ms => simp [touches] at ht
  | close => simp [touches] at ht

/-- **no flow error terminates the multiplexer**: only the client going away ends it -/
theorem only_close_terminates (c : Cfg) (ops : List Op) (h : ∀ op ∈ ops, op ≠ .close) :
    (after c ops).finished = false :=
  (run_out (inv_init c) ops).fin h

/-- a destination that cannot be connected leaves nothing behind -/
theorem unconnectable_leaves_nothing (c : Cfg) (ops : List Op) (m : Meta) (len : Nat)
    (hk : c.kind m.dst = .unconn) :
    let s := after c ops
    let r := step c s (.dg m len)
    r.2.srv = [] ∧ r.1.pipe = s.pipe ∧ r.1.socks = s.socks ∧ r.1.finished = s.finished := by
  dsimp only
  rw [step_dg_unconn (runFrom_inv c ops) hk]
  exact ⟨rfl, rfl, rfl, rfl⟩

/-- a send that reports a socket error releases that flow (both tables) and nothing else; the
next datagram on the pair starts afresh (`datagram_starts_fresh_flow`) -/
theorem socket_error_releases_flow (c : Cfg) (ops : List Op) (m : Meta) (len : Nat) (k : Sock)
    (hf : (after c ops).finished = false)
    (hs : findSock (after c ops) m = some k) (hp : k.poisoned = true) :
    let r := step c (after c ops) (.dg m len)
    hasPipe r.1 m = false ∧ findSock r.1 m = none ∧ r.1.finished = false ∧
    r.1.gauge + 1 = (after c ops).gauge := by
  have h := runFrom_inv c ops
  dsimp only
  rw [step_dg hf, stepDg_known (by rw [h.core.coupled, hs]; rfl),
    sinkWrite_poisoned (s := touched _ m) hs hp]
  obtain ⟨hk1, rfl⟩ := findSock_some hs
  exact ⟨(keep_self _ _).1, (keep_self _ _).2, hf, Keyed.filter_key_ne_length h.core.nodupSK hk1⟩

/-- when the client goes away everything is released -/
theorem close_releases_everything (c : Cfg) (ops : List Op) :
    (after c (ops ++ [.close])).gauge = 0 ∧ (after c (ops ++ [.close])).flows = 0 := by
  have h := runFrom_inv c ops
  rw [after_snoc]
  cases hf : (after c ops).finished with
  | true => rw [step_of_finished hf]; simp [St.gauge, St.flows, h.core.fin hf]
  | false => rw [step_close hf]; exact ⟨rfl, rfl⟩

/-! ## Relayed bytes -/

/-- the peer → client byte count reported through `update_metrics` is exactly the payload
delivered to the client -/
theorem down_bytes_are_delivered_bytes (c : Cfg) (ops : List Op) :
    (after c ops).down = ((obsOf c ops).map fun o => (o.cli.map (·.2.2)).sum).sum :=
  (run_out (inv_init c) ops).down.trans (Nat.zero_add _)

/-! ## The receive buffer

The histories above treat a reply as delivered with the length it arrived with. That is a fact about
the receive buffer of the multiplexer: `recv` into a buffer of `cap` bytes keeps `min cap n` bytes of
an `n`-byte datagram and drops the rest without an error. The capacities are read from the source on
every run (`TT.Gen.udp_recv_capacity_direct`, `TT.Gen.udp_recv_capacity_socks`). -/

/-- what `recv` keeps of an `n`-byte datagram in a buffer of `cap` bytes -/
def recvInto (cap n : Nat) : Nat := min cap n

/-- the largest payload of a UDP datagram over IPv4: a 65535-byte packet less the two headers
(`net_utils.rs` assumes the slightly larger IPv6 datagrams away, and so does this theorem) -/
def maxIpv4UdpPayload : Nat := 65535 - TT.Gen.min_ipv4_header_size - TT.Gen.udp_header_size

/-- **a reply is handed on with the length it arrived with** (direct forwarder): every datagram an
IPv4 peer can send fits the buffer `read_pending_socket` receives into -/
theorem direct_reply_received_whole (n : Nat) (h : n ≤ maxIpv4UdpPayload) :
    recvInto TT.Gen.udp_recv_capacity_direct n = n :=
  Nat.min_eq_right (Nat.le_trans h (by decide))

/-- the same for the SOCKS5 forwarder, whose buffer receives the relay's datagram (header and payload) -/
theorem socks_relay_datagram_received_whole (n : Nat) (h : n ≤ maxIpv4UdpPayload) :
    recvInto TT.Gen.udp_recv_capacity_socks n = n :=
  Nat.min_eq_right (Nat.le_trans h (by decide))

/-- the bound is the one the wire has, and a shorter buffer would cut -/
example : maxIpv4UdpPayload = 65507 ∧ recvInto 65500 65507 = 65500 := by decide

/-! ## Non-vacuity -/

def exCfg : Cfg := { timeout := 8000, kinds := [.live, .live, .dns, .dead, .unconn] }

/-- expiry, reuse, DNS completion, dead port and unconnectable destination all happen in one
concrete history, with the hypotheses of the theorems above satisfied along the way -/
example :
    let ops := [Op.dg ⟨0, 0⟩ 10, .reply ⟨0, 0⟩ 12, .dg ⟨1, 2⟩ 5, .dg ⟨0, 3⟩ 7, .dg ⟨0, 4⟩ 7,
                .reply ⟨1, 2⟩ 9, .dg ⟨0, 3⟩ 7, .adv 10001, .dg ⟨0, 0⟩ 3]
    (after exCfg ops).gauge = 1 ∧ (after exCfg ops).up = 10 + 5 + 7 + 3 ∧ (after exCfg ops).down = 21
    ∧ (obsOf exCfg ops).map (·.srv.length) = [1, 0, 1, 0, 0, 0, 0, 0, 1]
    ∧ (after exCfg (ops.take 3)).gauge = 2 ∧ (after exCfg (ops.take 6)).gauge = 2
    ∧ (after exCfg (ops.take 7)).gauge = 1 ∧ (after exCfg (ops.take 8)).gauge = 0 := by
  decide

end TT.UdpFlows

/-!
## The SOCKS5 forwarder's multiplexer

Same pipe, different forwarder: one UDP association per client source address, shared by the flows
of that source (`TT/Model/UdpSocks.lean`). What the property asks of it: flows never get each
other's datagrams, closing one flow does not take the association away from its siblings, the
association is released with its last flow, and no flow error ends the multiplexer.
-/
namespace TT.UdpSocks
open TT.UdpFlows (Meta Cfg Op Obs)

def obsOf (c : Cfg) (ops : List Op) : List Obs := (runFrom c ops).2

/-- **the flow table and the associations' peers hold the same flows**: one association per
source, none without a peer, so the gauge is the number of client sources with a live flow -/
theorem socks_tables_coupled (c : Cfg) (ops : List Op) :
    let s := after c ops
    (∀ m : Meta, hasPipe s m = s.assocs.any (fun a => a.src == m.src && a.peers.contains m.dst)) ∧
    (s.assocs.map (·.src)).Nodup ∧ (s.assocs.map (·.id)).Nodup ∧
    (∀ a ∈ s.assocs, a.peers ≠ [] ∧ a.peers.Nodup) ∧ (s.pipe.map (·.key)).Nodup := by
  have h := runFrom_inv c ops
  refine ⟨?_, h.a.srcNd, h.a.idNd, fun a ha => (h.a.good a ha).2, h.keyNd⟩
  intro m
  rw [Bool.eq_iff_iff, h.hasPipe_iff m]
  simp [Cov]

/-- **closing one flow leaves the association to its siblings**: with two live flows of one
source, closing one keeps the same association (same socket), now without that peer -/
theorem sibling_flow_keeps_association (c : Cfg) (ops : List Op) (m m' : Meta) (a : Assoc)
    (hs : m.src = m'.src) (hd : m.dst ≠ m'.dst)
    (h1 : hasPipe (after c ops) m = true) (h2 : hasPipe (after c ops) m' = true)
    (ha : findAssoc (after c ops) m.src = some a) :
    findAssoc (closeFlow (after c ops) m) m.src = some { a with peers := a.peers.filter (· != m.dst) } ∧
    m'.dst ∈ a.peers.filter (· != m.dst) := by
  have h := runFrom_inv c ops
  obtain ⟨_, ha2⟩ := Keyed.find?_key_some Assoc.src ha
  have hmem : m'.dst ∈ a.peers.filter (· != m.dst) :=
    List.mem_filter.2 ⟨h.peer h2 (hs ▸ ha), by simpa using fun e => hd e.symm⟩
  have _ := h1  -- (that `m` itself is still a flow is not needed: `closeF` keeps `a` for `m'`)
  rw [findAssoc_close h.a.srcNd, ha]
  exact ⟨closeF_eq_some_iff.2 (.inl ⟨ha2, List.ne_nil_of_mem hmem, rfl⟩), hmem⟩

/-- ... and the last flow of a source releases it -/
theorem last_flow_releases_association (c : Cfg) (ops : List Op) (m : Meta) (a : Assoc)
    (ha : findAssoc (after c ops) m.src = some a) (hp : a.peers = [m.dst]) :
    findAssoc (closeFlow (after c ops) m) m.src = none ∧
    (closeFlow (after c ops) m).gauge + 1 = (after c ops).gauge := by
  have h := runFrom_inv c ops
  obtain ⟨ha1, ha2⟩ := Keyed.find?_key_some Assoc.src ha
  have hc : closeF m a = none := by simp [closeF, ha2, hp]
  have hkept : ∀ b ∈ (after c ops).assocs, b.src ≠ a.src → closeF m b = some b := fun b _ hb =>
    closeF_eq_some_iff.2 (.inr ⟨fun e => hb (e.trans ha2.symm), rfl⟩)
  rw [findAssoc_close h.a.srcNd, ha]
  exact ⟨hc, Keyed.length_filterMap_drop h.a.srcNd (closeF m) ha1 hc fun b hb hne => by rw [hkept b hb hne]; rfl⟩

/-- **a datagram is sent to exactly its destination, a reply is labelled with the flow the server
answered** -/
theorem socks_routing (c : Cfg) (ops : List Op) :
    ∀ o ∈ obsOf c ops, (∀ x ∈ o.srv, x.1 = x.2.1.dst) ∧ (∀ x ∈ o.cli, x.1 = x.2.1) :=
  (run_out (inv_init c) ops).routed

/-- **only the client going away ends the multiplexer** -/
theorem socks_only_close_terminates (c : Cfg) (ops : List Op) (h : ∀ op ∈ ops, op ≠ .close) :
    (after c ops).finished = false :=
  (run_out (inv_init c) ops).fin h

/-- an operation on a flow of another source leaves a source's association untouched -/
theorem other_sources_undisturbed (c : Cfg) (ops : List Op) (m : Meta) (len src : Nat) (hne : src ≠ m.src) :
    findAssoc (step c (after c ops) (.dg m len)).1 src = findAssoc (after c ops) src :=
  (step_dg_out (runFrom_inv c ops) m len).other src hne

example :
    let c : Cfg := { timeout := 8000, kinds := [.live, .live, .dns, .dead, .unconn] }
    let ops := [Op.dg ⟨0, 0⟩ 10, .dg ⟨0, 1⟩ 10, .dg ⟨1, 0⟩ 10, .reply ⟨1, 0⟩ 12, .adv 4000, .dg ⟨0, 1⟩ 10, .adv 6001,
                .reply ⟨0, 1⟩ 12, .adv 10001]
    (after c (ops.take 3)).gauge = 2 ∧ (after c (ops.take 7)).gauge = 1 ∧ (after c (ops.take 7)).flows = 1
    ∧ (obsOf c ops).map (·.cli.length) = [0, 0, 0, 1, 0, 0, 0, 1, 0] ∧ (after c ops).gauge = 0 := by
  decide

end TT.UdpSocks
