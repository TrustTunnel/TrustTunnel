import TT.Model.Scrub
import TT.Gen.LogSites
import TT.Lemmas.Scrub
/-!
# C20  Secrets never reach the log, at any level

Three parts: (1) the scrubbers hide what they are meant to hide, stated as *non-interference*
(the printed form does not depend on the secret); (2) every logging call and every
error-string-building `format!` of `lib/src`, re-extracted from the source on every run together
with the taint verdict of `tools/extract.py`, is clean; (3) (not a theorem) the dynamic canary
search of the `c20` suite.
-/
namespace TT.Scrub

/-- two header lists that differ only in the values of Authorization / Proxy-Authorization /
Cookie headers -/
def SameUpToSecrets : Headers → Headers → Prop
  | [], [] => True
  | (n1, v1) :: r1, (n2, v2) :: r2 => n1 = n2 ∧ (n1 ∈ sensitive ∨ v1 = v2) ∧ SameUpToSecrets r1 r2
  | _, _ => False

/-- **The scrubbed request does not depend on the secret values** -/
theorem scrub_request_hides (h1 h2 : Headers) (h : SameUpToSecrets h1 h2) : scrubHeaders h1 = scrubHeaders h2 := by
  have hrel : Rel sensitive h1 h2 := by
    fun_induction SameUpToSecrets h1 h2 with
    | case1 => trivial
    | case2 _ _ _ _ _ _ ih => exact ⟨h.1, h.2.1, ih h.2.2⟩
    | case3 => exact h.elim
  exact hrel.scrubAll

/-- every sensitive header that is present shows the placeholder, exactly once -/
theorem scrubbed_values_are_placeholders (hs : Headers) (n v : String) (hm : (n, v) ∈ scrubHeaders hs)
    (hn : n ∈ sensitive) : v = placeholder :=
  (mem_scrubAll hm).elim (·.2) fun h => absurd hn h.1

/-- the other headers are left as they are, in order -/
theorem scrub_keeps_other_headers (hs : Headers) :
    (scrubHeaders hs).filter (fun h => !sensitive.contains h.1) = hs.filter (fun h => !sensitive.contains h.1) := by
  exact filter_scrubAll (fun name hn _ => by simp [hn]) hs

/-- nothing is added: a request without a sensitive header is printed as is -/
theorem scrub_adds_nothing (hs : Headers) (h : ∀ x ∈ hs, x.1 ∉ sensitive) : scrubHeaders hs = hs :=
  scrubAll_eq_self fun _ hn x hx e => h x hx (e ▸ hn)

/-- **The scrubbed SNI does not depend on the credentials label** of `<credentials>.<host>` -/
theorem scrub_sni_hides_label (c1 c2 host : List Char) (h1 : '.' ∉ c1) (h2 : '.' ∉ c2) :
    scrubSni (c1 ++ '.' :: host) = scrubSni (c2 ++ '.' :: host) ∧
    scrubSni (c1 ++ '.' :: host) = placeholder.toList ++ '.' :: host := by
  rw [scrubSni_label host h1, scrubSni_label host h2]
  exact ⟨rfl, rfl⟩

/-- **The debug form of the connection meta does not depend on the credentials** -/
theorem meta_debug_hides_creds (c1 c2 host : List Char) (h1 : '.' ∉ c1) (h2 : '.' ∉ c2) (p ch : String) :
    metaDebug (c1 ++ '.' :: host) (some c1) p ch = metaDebug (c2 ++ '.' :: host) (some c2) p ch := by
  rw [metaDebug_some, metaDebug_some, scrubSni_label host h1, scrubSni_label host h2]

/-- **A secret carried only by sensitive headers does not occur in the scrubbed request at all**:
stated on the output rather than by comparison - no header of the scrubbed list has the secret as its
value, however many times and under whichever of the three names it was sent -/
theorem secret_value_absent (hs : Headers) (secret : String) (hne : secret ≠ placeholder)
    (hocc : ∀ x ∈ hs, x.2 = secret → x.1 ∈ sensitive) : ∀ x ∈ scrubHeaders hs, x.2 ≠ secret := by
  intro x hx heq
  rcases mem_scrubAll hx with ⟨_, hp⟩ | ⟨hn, hm⟩
  · exact hne (heq ▸ hp)
  · exact hn (hocc x hm heq)

/-- a server name without a dot carries no credentials label and is printed as it is -/
theorem scrub_sni_single_label (sni : List Char) (h : '.' ∉ sni) : scrubSni sni = sni := by
  have := span_label h (.inl rfl)
  rw [List.append_nil] at this
  rw [scrubSni, this]

example : scrubSni "localhost".toList = "localhost".toList ∧
    scrubSni "user-pass.vpn.example.org".toList = "scrubbed.vpn.example.org".toList := by decide +kernel

/-- **Every log site is clean**: none of the (currently several hundred) logging calls and
request-derived error strings of the library prints a secret-bearing expression that is not
wrapped by a scrubber.  The list and the taint verdicts are regenerated from `/repo` on every
run; a new unscrubbed site makes this `decide` fail and names the site. -/
theorem all_log_sites_clean : ∀ s ∈ TT.Gen.logSites, s.tainted = false := by
  decide +kernel

/-- the table is not vacuous -/
theorem log_sites_nonempty : 100 ≤ TT.Gen.logSites.length := by
  decide +kernel

/-! ## Records of the TLS library -/

/-- **the TLS library's handshake dumps never reach the log, at any level**: a trace record whose target
is the TLS library's is dropped whatever the configured maximum -/
theorem tls_library_traces_never_logged (maxLevel : Nat) (target : List Char)
    (h : tlsLibrary.isPrefixOf target = true) : loggable maxLevel traceLevel target = false := by
  simp [loggable, h]

/-- nothing else is filtered: every other record is written exactly when its level is within the maximum -/
theorem other_records_follow_the_level (maxLevel level : Nat) (target : List Char)
    (h : level ≠ traceLevel ∨ tlsLibrary.isPrefixOf target = false) :
    loggable maxLevel level target = decide (level ≤ maxLevel) := by
  cases h with
  | inl h => simp [loggable, h]
  | inr h => simp [loggable, h]

example : loggable 5 5 "rustls::server::hs".toList = false ∧ loggable 5 4 "rustls::server::hs".toList = true
    ∧ loggable 5 5 "trusttunnel::core".toList = true ∧ loggable 3 4 "trusttunnel::core".toList = false := by
  decide +kernel

end TT.Scrub
