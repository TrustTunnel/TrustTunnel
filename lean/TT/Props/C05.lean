import TT.Model.Demux
import TT.Lemmas.Demux
/-!
# C05  SNI/ALPN demultiplexing selects the right host, channel and protocol
-/
namespace TT.Demux

/-- the protocols a channel permits -/
def permits : Channel → Proto → Bool
  | .reverseProxy, .h2 => false
  | _, _ => true

/-- the host entry an SNI designates, by the precedence the property states: exact host name
(own class), configured alternative SNI, `<credentials>.<main host>` -/
def designated (cfg : Cfg) (sni : String) : Option (Channel × String × Option String) :=
  if cfg.main.contains sni then some (.tunnel, sni, none)
  else if cfg.rproxy.contains sni then some (.reverseProxy, sni, none)
  else if cfg.ping.contains sni then some (.ping, sni, none)
  else if cfg.speed.contains sni then some (.speedtest, sni, none)
  else match cfg.alt.find? (fun e => e.1 == sni && cfg.main.contains e.2) with
    | some e => some (.tunnel, e.2, none)
    | none =>
      match splitOnceDot sni.toList with
      | some (a, b) => if cfg.main.contains (String.ofList b) then some (.tunnel, String.ofList b, some (String.ofList a)) else none
      | none => none

theorem permits_eq : permits = permitsL := by
  funext c p; cases c <;> cases p <;> rfl

theorem designated_eq : designated = designatedL := rfl

/-- **Right host and channel**: whenever a connection is accepted, it is served with the entry the
SNI designates (certificate identity = class and configured name), on that entry's channel, with
the credentials label only in the `<credentials>.<host>` form -/
theorem select_designated_host (cfg : Cfg) (alpn : List Alpn) (sni : String) (m : Meta)
    (h : select cfg alpn sni = some m) :
    ∃ ch name creds, designated cfg sni = some (ch, name, creds) ∧
      m.channel = ch ∧ m.host = (ch, name) ∧ m.creds = creds ∧ m.sni = sni := by
  obtain ⟨_, ch, name, creds, p, hd, _, rfl⟩ := select_some h
  exact ⟨ch, name, creds, by rw [designated_eq]; exact hd, rfl, rfl, rfl, rfl⟩

/-- **An SNI designating no entry is refused**, as is a missing SNI on TCP -/
theorem no_entry_refused (cfg : Cfg) (alpn : List Alpn) (sni : String) (h : designated cfg sni = none) :
    select cfg alpn sni = none ∧ tcpAccept cfg alpn none = none := by
  refine ⟨?_, rfl⟩
  rw [select_eq, ← designated_eq, h]
  split <;> rfl

/-- with host names unique across classes an exact name designates its own class
(so the lookup order among classes is immaterial) -/
theorem exact_name_own_class (cfg : Cfg) (sni : String)
    (hu : namesUnique (cfg.main ++ cfg.ping ++ cfg.speed ++ cfg.rproxy) = true) :
    (sni ∈ cfg.ping → designated cfg sni = some (.ping, sni, none)) ∧
    (sni ∈ cfg.speed → designated cfg sni = some (.speedtest, sni, none)) ∧
    (sni ∈ cfg.rproxy → designated cfg sni = some (.reverseProxy, sni, none)) ∧
    (sni ∈ cfg.main → designated cfg sni = some (.tunnel, sni, none)) := by
  obtain ⟨h123, -, dR'⟩ := List.nodup_append.1 ((namesUnique_iff_nodup _).1 hu)
  obtain ⟨h12, -, dS'⟩ := List.nodup_append.1 h123
  obtain ⟨-, -, dP'⟩ := List.nodup_append.1 h12
  have dR : ∀ {x}, x ∈ cfg.main ++ cfg.ping ++ cfg.speed → x ∉ cfg.rproxy := fun hx hr => dR' _ hx _ hr rfl
  have dS : ∀ {x}, x ∈ cfg.main ++ cfg.ping → x ∉ cfg.speed := fun hx hs => dS' _ hx _ hs rfl
  have dP : ∀ {x}, x ∈ cfg.main → x ∉ cfg.ping := fun hx hp => dP' _ hx _ hp rfl
  refine ⟨fun hp => ?_, fun hs => ?_, fun hr => ?_, fun hm => by simp [designated, hm]⟩
  · have h1 : sni ∉ cfg.main := fun hm => dP hm hp
    have h2 : sni ∉ cfg.rproxy := dR (by simp [hp])
    simp [designated, h1, h2, hp]
  · have h1 : sni ∉ cfg.main := fun hm => dS (by simp [hm]) hs
    have h2 : sni ∉ cfg.rproxy := dR (by simp [hs])
    have h3 : sni ∉ cfg.ping := fun hp => dS (by simp [hp]) hs
    simp [designated, h1, h2, h3, hs]
  · have h1 : sni ∉ cfg.main := fun hm => dR (by simp [hm]) hr
    simp [designated, h1, hr]

/-- **Most preferred common protocol**: the protocol of an accepted connection was offered by the
client, is enabled on the listener and permitted by the channel, and no offered+enabled+permitted
protocol is preferred to it - unless the client offered no ALPN at all, in which case it is
HTTP/1.1 and HTTP/1.1 is enabled -/
theorem protocol_is_best_common (cfg : Cfg) (alpn : List Alpn) (sni : String) (m : Meta)
    (h : select cfg alpn sni = some m) :
    (alpn = [] ∧ m.protocol = .h1 ∧ .h1 ∈ cfg.enabled) ∨
    (some m.protocol ∈ alpn ∧ m.protocol ∈ cfg.enabled ∧ permits m.channel m.protocol = true ∧
      ∀ q, some q ∈ alpn → q ∈ cfg.enabled → permits m.channel q = true → q.rank ≤ m.protocol.rank) := by
  obtain ⟨_, ch, name, creds, p, _, hp, rfl⟩ := select_some h
  rw [permits_eq]
  rcases protoFor_some hp with ⟨h1, h2, h3, h4⟩ | ⟨_, h2, h3, h4⟩
  · refine Or.inr ⟨mem_parsed.1 h1, h2, h3, ?_⟩
    intro q hq he hpq
    exact h4 q (mem_parsed.2 hq) he hpq
  · refine Or.inl ⟨?_, h4, h3⟩
    simpa using h2

/-- ... and whenever the designated entry exists and some offered protocol is enabled and
permitted, the connection is not refused for protocol reasons -/
theorem common_protocol_accepted (cfg : Cfg) (alpn : List Alpn) (sni : String) (ch : Channel) (name : String)
    (creds : Option String) (hd : designated cfg sni = some (ch, name, creds)) (q : Proto)
    (hq : some q ∈ alpn) (he : q ∈ cfg.enabled) (hp : permits ch q = true) :
    (select cfg alpn sni).isSome = true := by
  rw [designated_eq] at hd
  rw [permits_eq] at hp
  rw [select_eq, unknownOnly_false_of_mem hq, hd]
  simp only [Bool.false_eq_true, if_false, Option.bind_some, Option.isSome_map]
  exact protoFor_isSome (mem_parsed.2 hq) he hp

/-- **HTTP/1.1 is assumed only for an empty offer**: a non-empty offer never yields a protocol
that was not offered -/
theorem default_only_when_no_alpn (cfg : Cfg) (alpn : List Alpn) (sni : String) (m : Meta)
    (h : select cfg alpn sni = some m) (hne : alpn ≠ []) : some m.protocol ∈ alpn := by
  rcases protocol_is_best_common cfg alpn sni m h with ⟨h0, _⟩ | ⟨h1, _⟩
  · exact absurd h0 hne
  · exact h1

/-- **Unknown ALPN identifiers are ignored** next to known ones (and an offer of unknown
identifiers only is refused) -/
theorem unknown_alpn_ignored (cfg : Cfg) (alpn : List Alpn) (sni : String) (hk : ∃ p, some p ∈ alpn) :
    select cfg alpn sni = select cfg (alpn.filter Option.isSome) sni := by
  obtain ⟨p, hp⟩ := hk
  have hp' : some p ∈ alpn.filter Option.isSome := by simp [List.mem_filter, hp]
  have e1 : alpn.isEmpty = false := List.isEmpty_eq_false_iff_exists_mem.2 ⟨_, hp⟩
  have e2 : (alpn.filter Option.isSome).isEmpty = false := List.isEmpty_eq_false_iff_exists_mem.2 ⟨_, hp'⟩
  rw [select_eq, select_eq, unknownOnly_false_of_mem hp, unknownOnly_false_of_mem hp',
    filterMap_id_filter_isSome, e1, e2]

theorem only_unknown_refused (cfg : Cfg) (alpn : List Alpn) (sni : String) (hne : alpn ≠ [])
    (hu : ∀ a ∈ alpn, a = none) : select cfg alpn sni = none := by
  rw [select_eq]
  simp [unknownOnly, (List.filterMap_eq_nil_iff (f := id)).2 hu, hne]

/-- **HTTP/3 is never selected on a TCP connection** -/
theorem tcp_never_h3 (cfg : Cfg) (alpn : List Alpn) (sni : Option String) (m : Meta)
    (h : tcpAccept cfg alpn sni = some m) : m.protocol ≠ .h3 := by
  obtain ⟨_, _, _, h3⟩ := tcpAccept_some h
  exact h3

/-- **QUIC connections speak HTTP/3 only**: whatever the SNI, an accepted QUIC connection is an
HTTP/3 one -/
theorem quic_always_h3 (cfg : Cfg) (sni : Option String) (m : Meta) (h : quicAccept cfg sni = some m) :
    m.protocol = .h3 := by
  rcases quicAccept_some h with ⟨s, hs⟩ | hb
  · -- `select` was offered HTTP/3 only
    rcases protocol_is_best_common cfg [some .h3] s m hs with ⟨he, _, _⟩ | ⟨hmem, _, _, _⟩
    · cases he
    · simpa using hmem
  · exact bootstrap_some hb

/-- **On QUIC too the designated entry is served**: when the SNI designates an entry whose channel
admits HTTP/3 and HTTP/3 is enabled, the QUIC connection gets that entry's certificate and
channel (with the credentials label of the `<credentials>.<host>` form) -/
theorem quic_designated_host (cfg : Cfg) (sni : String) (hne : sni.isEmpty = false) (ch : Channel) (name : String)
    (creds : Option String) (hd : designated cfg sni = some (ch, name, creds)) (he : Proto.h3 ∈ cfg.enabled) :
    ∃ m, quicAccept cfg (some sni) = some m ∧ m.channel = ch ∧ m.host = (ch, name) ∧ m.creds = creds ∧ m.protocol = .h3 := by
  have hp : permits ch .h3 = true := by cases ch <;> rfl
  obtain ⟨m, hm⟩ := Option.isSome_iff_exists.1
    (common_protocol_accepted cfg [some .h3] sni ch name creds hd .h3 (by simp) he hp)
  have hq : quicAccept cfg (some sni) = some m := by simp [quicAccept, hne, hm]
  obtain ⟨ch', name', creds', hd', hc, hh, hcr, _⟩ := select_designated_host cfg [some .h3] sni m hm
  cases hd.symm.trans hd'
  exact ⟨m, hq, hc, hh, hcr, quic_always_h3 cfg (some sni) m hq⟩

/-- an SNI designating no entry (or none at all) is not refused on QUIC: the connection is a
tunnel connection of the first main host (noted, not required by the property, which speaks of TCP) -/
theorem quic_unknown_sni_is_bootstrap (cfg : Cfg) (sni : String) (h : designated cfg sni = none) :
    quicAccept cfg (some sni) = bootstrap cfg ∧ quicAccept cfg none = bootstrap cfg := by
  have hs := (no_entry_refused cfg [some .h3] sni h).1
  constructor
  · simp only [quicAccept]
    split
    · rfl
    · rw [hs]
  · rfl

example : quicAccept ⟨["main.example"], ["ping.example"], [], [], [], [.h1, .h2, .h3]⟩ (some "ping.example") =
    some ⟨"ping.example", .h3, .ping, (.ping, "ping.example"), none⟩ := by decide
example : quicAccept ⟨["main.example"], ["ping.example"], [], [], [], [.h1, .h2, .h3]⟩ (some "nope") =
    some ⟨"main.example", .h3, .tunnel, (.tunnel, "main.example"), none⟩ := by decide

/-- **A failed reload leaves the previous configuration in force; a successful one replaces it
wholesale** -/
theorem reload_failure_keeps_old (enabled : List Proto) (rp : Bool) (cur : Cfg) (h : HostsSettings)
    (hv : h.valid = false) : reload enabled rp cur h = (cur, false) := by
  simp [reload, hv]

theorem reload_success_replaces (enabled : List Proto) (rp : Bool) (cur : Cfg) (h : HostsSettings)
    (hv : h.valid = true) : reload enabled rp cur h = (mkCfg enabled rp h, true) := by
  simp [reload, hv]

/-- the configuration in force after a history: the one installed by its last successful reload (or the initial one) -/
def cfgAt (enabled : List Proto) (rp : Bool) : Cfg → List Ev → Cfg
  | cur, [] => cur
  | cur, .reload h :: rest => cfgAt enabled rp (reload enabled rp cur h).1 rest
  | cur, .select _ _ :: rest => cfgAt enabled rp cur rest

/-- **Atomic switch**: in any history every selection is answered entirely from one
configuration - the one installed by the last successful reload before it (or the initial one) -/
theorem reload_atomic (enabled : List Proto) (rp : Bool) (cur : Cfg) (pre : List Ev) (a : List Alpn) (s : String)
    (post : List Ev) :
    (run enabled rp cur (pre ++ .select a s :: post))[(run enabled rp cur pre).length]? =
      some (select (cfgAt enabled rp cur pre) a s) := by
  induction pre generalizing cur with
  | nil => simp [run, cfgAt]
  | cons e rest ih =>
    cases e with
    | reload h => simpa [run, cfgAt] using ih (reload enabled rp cur h).1
    | select a' s' => simpa [run, cfgAt] using ih cur

example : (select ⟨["main.example"], ["ping.example"], [], [], [("alt.main.example", "main.example")], [.h1, .h2]⟩
    [some .h2, some .h1] "alt.main.example").map (fun m => (m.protocol, m.creds)) = some (.h2, none) := by decide
example : (select ⟨["main.example"], ["ping.example"], [], [], [], [.h1]⟩ [some .h2] "ping.example") = none := by decide
example : (select ⟨["main.example"], [], [], [], [], [.h1, .h2]⟩ [some .h2] "user.main.example").map (·.creds) = some (some "user") := by decide


/-- the selections of a history, each answered from one fixed configuration -/
def selectionsUnder (cfg : Cfg) : List Ev → List (Option Meta)
  | [] => []
  | .reload _ :: rest => selectionsUnder cfg rest
  | .select a s :: rest => select cfg a s :: selectionsUnder cfg rest

/-- **Failed reloads are invisible**: however many reloads with settings that do not validate are
interleaved with the connections, every connection is answered exactly as if no reload had been
attempted - from the configuration in force before -/
theorem failed_reloads_invisible (enabled : List Proto) (rp : Bool) (cur : Cfg) (evs : List Ev)
    (h : ∀ hs, Ev.reload hs ∈ evs → hs.valid = false) :
    run enabled rp cur evs = selectionsUnder cur evs := by
  induction evs with
  | nil => rfl
  | cons e rest ih =>
    have ih' := ih (fun hs hm => h hs (List.mem_cons_of_mem _ hm))
    cases e with
    | reload hs =>
      have hv := h hs (by simp)
      simp only [run, selectionsUnder, reload_failure_keeps_old enabled rp cur hs hv]
      exact ih'
    | select a s =>
      simp only [run, selectionsUnder, ih']

/-- reloading the same valid settings again changes nothing -/
theorem reload_idempotent (enabled : List Proto) (rp : Bool) (cur : Cfg) (hs : HostsSettings) :
    (reload enabled rp (reload enabled rp cur hs).1 hs).1 = (reload enabled rp cur hs).1 := by
  unfold reload
  split <;> simp_all

end TT.Demux
