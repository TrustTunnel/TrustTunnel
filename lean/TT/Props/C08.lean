import TT.Model.H1
import TT.Lemmas.H1
import TT.Model.H1Relay
import TT.Lemmas.H1Relay
/-!
# C08  HTTP/1.1 transport is segmentation-invariant and never spins
-/
namespace TT.H1
open TT

/-- **Segmentation invariance of the request head and exactness of the payload**: for every
split of the client's byte stream `head ++ payload` into non-empty reads, the codec recognises
the same head and the payload bytes it hands on (tail after the head, then the remaining reads)
are exactly `payload`, nothing lost or duplicated.  (`head.length ≤ headCap`: longer heads may be
rejected, see `oversize_rejected`.) -/
theorem head_segmentation_invariant (p : Parser) (hp : PrefixConsistent p) (head payload : Bytes)
    (hh : p.parse head = .complete head.length) (hl : head.length ≤ headCap)
    (reads : List Bytes) (hne : ∀ r ∈ reads, r ≠ []) (hs : reads.flatten = head ++ payload) :
    ∃ tail rest, listenWaiting p [] reads = .request head tail rest ∧ tail ++ rest.flatten = payload :=
  listen_request hp hh hl hne [] (by simpa using hs) (hp head head.length hh).1

/-- the upload side then receives exactly the payload, chunk boundaries aside, up to end of stream -/
theorem payload_exact (tail : Bytes) (rest : List Bytes) (hne : ∀ r ∈ rest, r ≠ []) :
    (uploadChunks tail rest).flatten = tail ++ rest.flatten ∧ ∀ c ∈ uploadChunks tail rest, c ≠ [] := by
  unfold uploadChunks
  rw [takeWhile_eq_self fun r hr => by simpa using hne r hr]
  cases tail with
  | nil => exact ⟨rfl, hne⟩
  | cons a t => exact ⟨rfl, List.forall_mem_cons.2 ⟨List.cons_ne_nil _ _, hne⟩⟩

/-- while the rest of the head is outstanding the codec waits for input: with the reads
exhausted and the stream a strict prefix of a valid head the result is `starved` (awaiting the
transport), never an error and never a premature request -/
theorem incomplete_head_waits (p : Parser) (hp : PrefixConsistent p) (head : Bytes)
    (hh : p.parse head = .complete head.length) (hl : head.length ≤ headCap)
    (reads : List Bytes) (hne : ∀ r ∈ reads, r ≠ []) (n : Nat) (hn : n < head.length)
    (hs : reads.flatten = head.take n) :
    listenWaiting p [] reads = .starved (head.take n) :=
  listen_starved hp hh hl hn hne [] (by simpa using hs)

/-- **Never spins**: every iteration of the loop that does not return awaits the transport (one
read per iteration), so the number of iterations is bounded by the number of reads -/
theorem no_spin (p : Parser) (buf : Bytes) (reads : List Bytes) :
    (∀ it ∈ itersWaiting p buf reads, it = .read ∨ it = .stop) ∧
    (itersWaiting p buf reads).length ≤ reads.length + 1 ∧
    ((itersWaiting p buf reads).filter (· == Iter.read)).length ≤ reads.length := by
  -- every way out of the loop is one read and a stop
  have stop : ∀ n, (∀ it ∈ [Iter.read, .stop], it = .read ∨ it = .stop) ∧ 2 ≤ n + 1 + 1 ∧
      ([Iter.read, .stop].filter (· == Iter.read)).length ≤ n + 1 :=
    fun n => ⟨by simp, by omega, by simp⟩
  -- the cases of `itersWaiting`: 1 no read left, 4 the head incomplete and below the cap (the only one that goes on)
  fun_induction itersWaiting p buf reads
  case case1 => exact ⟨nofun, Nat.zero_le _, Nat.zero_le _⟩
  case case4 ih =>
    exact ⟨fun it hit => (List.mem_cons.1 hit).elim .inl (ih.1 it), Nat.succ_le_succ ih.2.1, Nat.succ_le_succ ih.2.2⟩
  all_goals exact stop _

/-- **Bounded head buffering**: what is buffered while waiting for a head never exceeds the limit
by more than one read ... -/
theorem head_bounded (p : Parser) (buf : Bytes) (reads : List Bytes) (m : Nat) (hb : buf.length < headCap)
    (hm : ∀ r ∈ reads, r.length ≤ m) : maxBuffered p buf reads < headCap + m := by
  -- a buffer below the limit grows by at most one read
  have step : ∀ buf r : Bytes, buf.length < headCap → r.length ≤ m → (buf ++ r).length < headCap + m :=
    fun _ _ h1 h2 => List.length_append ▸ Nat.add_lt_add_of_lt_of_le h1 h2
  -- the cases of `maxBuffered`: 1 no read left, 2 end of stream, 3 the head incomplete and below the cap (it goes on)
  fun_induction maxBuffered p buf reads
  case case1 | case2 => exact Nat.lt_add_right m hb
  case case3 hlt ih =>
    exact Nat.max_lt.2 ⟨step _ _ hb (hm _ List.mem_cons_self), ih hlt fun r hr => hm r (List.mem_cons_of_mem _ hr)⟩
  all_goals exact step _ _ hb (hm _ List.mem_cons_self)

/-- ... and a head that is still incomplete at the limit is rejected -/
theorem oversize_rejected (p : Parser) (reads : List Bytes) (hne : ∀ r ∈ reads, r ≠ [])
    (hpar : ∀ n, p.parse (reads.flatten.take n) = .incomplete) (hl : headCap ≤ reads.flatten.length) :
    listenWaiting p [] reads = .error :=
  listen_oversize hpar hl hne [] (by simp) headCap_pos

/-- **End of stream before a complete head is a graceful end**: if the client goes away while the
head is still incomplete (any strict prefix of a valid head, the empty one included, in any
segmentation), the call ends with `closed` - not with an error, and never with a request made of a
partial head -/
theorem eof_before_complete_head_closes (p : Parser) (hp : PrefixConsistent p) (head : Bytes)
    (hh : p.parse head = .complete head.length) (hl : head.length ≤ headCap)
    (reads : List Bytes) (hne : ∀ r ∈ reads, r ≠ []) (n : Nat) (hn : n < head.length)
    (hs : reads.flatten = head.take n) (post : List Bytes) :
    listenWaiting p [] (reads ++ [] :: post) = .closed := by
  rw [listen_append_of_starved _ (incomplete_head_waits p hp head hh hl reads hne n hn hs)]
  simp [listenWaiting]

/-- and a head that arrives in two bursts with a pause in between (reads exhausted, then more) is
recognised exactly as if it had arrived without the pause -/
theorem head_across_a_pause (p : Parser) (reads more : List Bytes) (b : Bytes)
    (h : listenWaiting p [] reads = .starved b) :
    listenWaiting p [] (reads ++ more) = listenWaiting p b more :=
  listen_append_of_starved more h

/-- **Well-formed responses**: an independent reader recovers the status line and every header
line from `encode_response`, and the head ends exactly at the empty line -/
theorem response_wellformed (minor : Nat) (code reason : Bytes) (headers : List (Bytes × Bytes))
    (hc : ∀ x ∈ code ++ reason, x ≠ 13) (hh : ∀ h ∈ headers, (∀ x ∈ h.1 ++ h.2, x ≠ 13) ∧ h.1 ≠ []) (rest : Bytes) :
    readLines (headers.length + 2) (encodeResponse minor code reason headers ++ rest) =
      some (([72, 84, 84, 80, 47, 49, 46, 48 + minor, 32] ++ code ++ [32] ++ reason) ::
            headers.map (fun h => h.1 ++ [58, 32] ++ h.2), rest) := by
  unfold encodeResponse
  rw [readLines_line _ _ _ _ ?_ (by simp), readLines_headers headers rest hh]
  · rfl
  · -- no CR in the status line
    intro x hx
    simp only [List.mem_append, List.mem_cons, List.not_mem_nil, or_false] at hx
    rcases hx with ((hx | hx) | hx) | hx
    · omega
    · exact hc x (List.mem_append_left _ hx)
    · omega
    · exact hc x (List.mem_append_right _ hx)

end TT.H1

/-!
## The relaying phase: payload goes both ways until either side closes
-/
namespace TT.H1Relay
open TT

/-- how a closing event ends the call -/
def Ev.ending : Ev → End
  | .clientEof | .relayEof _ => .graceful
  | .relayGone fired => if fired then .graceful else .failed
  | _ => .failed

/-- the chunk that was queued behind an end-of-response notification is still written -/
def Ev.queued : Ev → Bytes
  | .relayEof q => q
  | _ => []

/-- **payload is relayed in both directions until either side closes**: while the client sends and
the relay side answers, everything is handed on, in order, in both directions, and the call goes on -/
theorem relaying_goes_on (evs : List Ev) (h : ∀ e ∈ evs, e.relays = true) :
    run {} evs = ({ upload := ups evs, written := downs evs }, none) := by
  have := run_relays [] [] h []
  simpa [run] using this

/-- ... **and ends with the first close**: the client's end of stream, the relay side's orderly end
(`eof()`), the relay side going away without one, or a failed read end the call at once - gracefully
in the first two cases, with an error otherwise; every byte either side sent before that was handed
on (and the chunk queued behind an orderly end is still written), nothing that comes later is -/
theorem relayed_until_close (pre post : List Ev) (e : Ev)
    (hp : ∀ x ∈ pre, x.relays = true) (hc : e.closes = true) :
    run {} (pre ++ e :: post) =
      ({ upload := ups pre, written := downs pre ++ e.queued }, some e.ending) := by
  rw [run_relays [] [] hp]
  cases e with
  | clientEof | readErr | relayEof _ | relayGone _ => simp [run, step, Ev.queued, Ev.ending]
  | up _ | sourceGone | down _ _ => cases hc

/-- a session never outlives either side: whatever else happens, once a closing event was seen
the call has returned -/
theorem session_ends_with_either_side (evs : List Ev) (h : ∃ e ∈ evs, e.closes = true) :
    (run {} evs).2.isSome = true :=
  run_ends {} evs h

/-- the relay side going away without an orderly end is an error, never a graceful end -/
theorem abort_is_not_graceful (pre post : List Ev) (hp : ∀ x ∈ pre, x.relays = true) :
    (run {} (pre ++ .relayGone false :: post)).2 = some .failed := by
  rw [relayed_until_close pre post _ hp rfl]; rfl

/-- client bytes that arrive after the relay side dropped the upload source end the call with an error
(they are not silently discarded) -/
theorem upload_without_source_fails (pre post : List Ev) (b : Bytes) (hp : ∀ x ∈ pre, x.relays = true) :
    (run {} (pre ++ .sourceGone :: .up b :: post)).2 = some .failed := by
  rw [run_relays [] [] hp]
  simp [run, step]

/-- the hypotheses are met by a concrete session, and the three ends differ as stated -/
example :
    run {} [.up [1, 2], .down [9] true, .up [3], .relayEof [8], .up [4]]
      = ({ upload := [1, 2, 3], written := [9, 8] }, some .graceful)
    ∧ (run {} [.up [1], .relayGone false]).2 = some .failed
    ∧ (run {} [.up [1], .clientEof, .down [5] true]).1.written = []
    ∧ (run {} [.up [1], .down [5] true]).2 = none := by decide

end TT.H1Relay
