import TT.Model.Socks5
import TT.Lemmas.Socks5
/-!
# C15  SOCKS5 upstream dialogue is well-formed and faithful

The statements use `IpWF` (octets below 256, hextets below 65536) and `extTlv` (the type number and the value a field of
the extended authentication message is sent with: 1 domain, 2 client address, 3 user agent, 4 Basic proxy credentials,
5 SNI authentication, with an empty value), defined in `TT/Lemmas/Socks5.lean`.
-/
namespace TT.Socks
open TT TT.Bytes

def BytesWF (b : Bytes) : Prop := ∀ x ∈ b, x < 256

/-- **Offered methods reflect whether credentials are available** and the message is RFC 1928 -/
theorem selection_wellformed (auth : Option Auth) :
    rfcParseSelection (encodeSelection auth) = some ([methodOf auth, 0], []) ∧
    (methodOf auth = 0 ↔ auth = none) ∧
    (methodOf auth = 2 ↔ ∃ u p, auth = some (.userPass u p)) ∧
    (methodOf auth = 0x80 ↔ ∃ v, auth = some (.extended v)) := by
  refine ⟨rfl, ?_⟩
  rcases auth with _ | (_ | _) <;> simp [methodOf]

/-- **RFC 1929 message or failure**: user name and password are transmitted verbatim with
single-octet lengths, or nothing is sent at all when either exceeds 255 bytes -/
theorem userpass_wellformed_or_fails (u p : Bytes) :
    (u.length ≤ 255 ∧ p.length ≤ 255 →
      ∃ msg, encodeAuth (.userPass u p) = some msg ∧ rfcParseUserPass msg = some (u, p, [])) ∧
    (255 < u.length ∨ 255 < p.length → encodeAuth (.userPass u p) = none) := by
  constructor
  · rintro ⟨hu, hp⟩
    refine ⟨[1, u.length] ++ u ++ [p.length] ++ p, ?_, ?_⟩
    · simp [encodeAuth]; omega
    · simp [rfcParseUserPass, Nat.not_lt.2 hu, Nat.not_lt.2 hp]
  · intro h
    simp [encodeAuth]; omega

def AddrWF : Addr → Prop
  | .ip ip => IpWF ip
  | .domain s => True ∧ BytesWF s

/-- **Requests keep address type and port**, or fail without output for names over 255 bytes -/
theorem request_wellformed_or_fails (cmd : Nat) (a : Addr) (port : Nat) (hp : port < 65536) (ha : AddrWF a) :
    (match a with | .domain s => s.length ≤ 255 | _ => True) →
      ∃ msg, encodeRequest cmd a port = some msg ∧ rfcParseRequest msg = some (cmd, a, port, []) := by
  intro hd
  have hport := u16_rt hp
  match a, ha, hd with
  | .ip (.v4 a b c d), _, _ =>
    -- the parser computes on this message; what it makes of the two port bytes is the port
    exact ⟨_, rfl, congrArg (fun p => some (cmd, Addr.ip (.v4 a b c d), p, [])) hport⟩
  | .ip (.v6 x), ha, _ =>
    refine ⟨_, rfl, ?_⟩
    -- The address bytes stay folded: the parser takes 16 bytes and is left with the port.  `.eq_def`: for the plain
    -- name `simp` first derives an equation for each case of the `match`, which is slow.
    simp only [addrType, u16be, List.cons_append, List.nil_append, rfcParseRequest.eq_def, read_ipBytes_v6 ha, hport]
    simp [ipBytes_v6_length]
  | .domain s, _, hd =>
    simp only at hd
    refine ⟨[5, cmd, 0, 3, s.length] ++ s ++ u16be port, by simp [encodeRequest, hd], ?_⟩
    simp [rfcParseRequest.eq_def, u16be, Nat.not_lt.2 hd, hport]

theorem request_long_domain_fails (cmd : Nat) (s : Bytes) (port : Nat) (h : 255 < s.length) :
    encodeRequest cmd (.domain s) port = none := by
  simp [encodeRequest]; omega

/-- **Extended authentication format**: version, TLVs in order, TERM; or nothing sent -/
theorem extended_wellformed (vals : List ExtVal) (msg : Bytes) (h : encodeAuth (.extended vals) = some msg) :
    rfcParseExtended msg = some (vals.map extTlv, []) := by
  simp only [encodeAuth] at h
  -- values that do not encode send nothing: `cases h` closes that branch and puts the message in for `msg` in the other
  split at h <;> cases h
  next b hb => exact parse_ext_vals [] hb (by simp +arith)

/-- **Split at the first colon** -/
theorem split_first_colon (u p : Bytes) (h : 0x3a ∉ u) :
    splitFirstColon (u ++ [0x3a] ++ p) = some (u, p) := by
  simpa [splitFirstColon] using splitFirstColon_append u (0x3a :: p) h

theorem make_auth_halves (u p token : Bytes) (h : 0x3a ∉ u) (hv : validUtf8 (u ++ [0x3a] ++ p) = true) :
    makeAuth (.proxyBasic (some (u ++ [0x3a] ++ p)) token) = some (.userPass u p) := by
  have hs := split_first_colon u p h
  simp only [makeAuth, hv, hs]
  simp

theorem make_auth_rejects (token : Bytes) (d : Bytes) (h : 0x3a ∉ d ∨ validUtf8 d = false) :
    makeAuth (.proxyBasic none token) = none ∧ makeAuth (.proxyBasic (some d) token) = none := by
  refine ⟨by simp [makeAuth], ?_⟩
  rcases h with h | h
  · simp [makeAuth, splitFirstColon_eq_none h]
  · simp [makeAuth, h]

/-- **Only well-formed messages are ever written**: what the client sends is the selection
message, optionally followed by one encoded authentication message, optionally followed by one
encoded request - each produced by an encoder above -/
theorem sent_is_encoded_messages (auth : Option Auth) (req : Request) (server : Bytes) :
    let sent := (connect auth req server).1
    sent = encodeSelection auth ∨
    (∃ r, (match req with
            | .connect a p => encodeRequest 1 a p
            | .udpAssociate l => encodeRequest 3 (.ip l.ip) l.port) = some r ∧
          sent = encodeSelection auth ++ r) ∨
    (∃ a m, auth = some a ∧ encodeAuth a = some m ∧
      (sent = encodeSelection auth ++ m ∨
       ∃ r, (match req with
            | .connect a p => encodeRequest 1 a p
            | .udpAssociate l => encodeRequest 3 (.ip l.ip) l.port) = some r ∧
          sent = encodeSelection auth ++ m ++ r)) := by
  cases req <;> exact connect_fst_cases ..

/-- **Proceeds only when the server selects an offered method and reports success** -/
theorem proceeds_only_if_offered_and_success (auth : Option Auth) (req : Request) (server : Bytes)
    (h : (connect auth req server).2 = .tcp ∨ ∃ b, (connect auth req server).2 = .udp b) :
    ∃ m rest, server = 5 :: m :: rest ∧
      ((m = 0 ∧ ∃ r rest', readReply rest = .ok r rest' ∧ r.code = 0) ∨
       (m ≠ 0 ∧ m = methodOf auth ∧ ∃ rest2, rest = 1 :: 0 :: rest2 ∧ ∃ r rest', readReply rest2 = .ok r rest' ∧ r.code = 0)) := by
  cases dialogue auth req server with
  | selectionFailed e hc | authFailed _ _ _ _ e hc => simp [hc] at h
  | noAuth rest hs hc =>
    rw [hc] at h
    exact ⟨0, rest, hs, .inl ⟨rfl, connectRequest_success h⟩⟩
  | authed _ _ rest _ _ hs h0 hc =>
    rw [hc] at h
    exact ⟨_, _, hs, .inr ⟨h0, rfl, rest, rfl, connectRequest_success h⟩⟩

/-- **Every failure reply fails the request**, unreachable and TTL-expired replies become the
unreachable and timed-out errors, and nothing but a success is reported as connected -/
theorem failure_reply_fails_request (o : Outcome) :
    (mapOutcome o = .connected ↔ o = .tcp) ∧
    mapOutcome (.failure 3) = .hostUnreachable ∧ mapOutcome (.failure 4) = .hostUnreachable ∧
    mapOutcome (.failure 6) = .timeout ∧ mapOutcome (.failure 5) = .refused ∧
    (∀ e, mapOutcome (.error e) ≠ .connected) := by
  refine ⟨⟨fun h => ?_, fun h => h ▸ rfl⟩, rfl, rfl, rfl, rfl, fun e => by cases e <;> nofun⟩
  -- `connected` stands in the first row of the table only
  unfold mapOutcome at h
  split at h <;> first | rfl | cases h

theorem nonzero_reply_is_failure (sent : Bytes) (req : Request) (server : Bytes) (r : Reply) (rest : Bytes)
    (hr : readReply server = .ok r rest) (hc : r.code ≠ 0)
    (he : (match req with
            | .connect a p => encodeRequest 1 a p
            | .udpAssociate l => encodeRequest 3 (.ip l.ip) l.port).isSome) :
    (connectRequest sent req server).2 = .failure r.code := by
  cases req <;> obtain ⟨msg, hm⟩ := Option.isSome_iff_exists.1 he <;> simp [connectRequest, hm, hr, hc]

/-- **Truncation at every byte is an I/O error**, never a success and never a panic: if a reply
parses, every strict prefix of the bytes it consumed fails with the EOF error -/
theorem reply_truncation_is_error (b : Bytes) (r : Reply) (rest : Bytes) (h : readReply b = .ok r rest)
    (n : Nat) (hn : n < b.length - rest.length) :
    ∃ e, readReply (b.take n) = .err e ∧ e = .io :=
  ⟨.io, readReply_streams.truncated h hn, rfl⟩

theorem selection_truncation_is_error (b : Bytes) (m : Nat) (rest : Bytes) (h : readSelection b = .ok m rest)
    (n : Nat) (hn : n < 2) : ∃ e, readSelection (b.take n) = .err e ∧ e = .io := by
  obtain rfl := readSelection_ok h
  match n, hn with
  | 0, _ | 1, _ => exact ⟨_, rfl, rfl⟩

def SockWF (s : Ip.Sock) : Prop := IpWF s.ip ∧ s.port < 65536

/-- **UDP relay header (RFC 1928 section 7)** round-trips, and unwrapping never panics -/
theorem udp_unwrap_wrap (dst : Ip.Sock) (data : Bytes) (h : SockWF dst) :
    udpUnwrap (udpWrap dst data) = .ok dst data := by
  obtain ⟨ip, port⟩ := dst
  obtain ⟨hi, hp⟩ := h
  simp only at hi hp
  have hport := u16_rt hp
  match ip, hi with
  | .v4 a b c d, _ =>
    simp [udpWrap, udpUnwrap.eq_def, ipBytes, u16be, hport]  -- `.eq_def` as in `request_wellformed_or_fails`
  | .v6 x, ha =>
    simp only [udpWrap, u16be, List.append_assoc, List.cons_append, List.nil_append, udpUnwrap.eq_def,
      read_ipBytes_v6 ha, hport]
    simp +arith [ipBytes_v6_length]

theorem udp_unwrap_no_panic (pkt : Bytes) : udpUnwrap pkt ≠ .panic := by
  fun_cases udpUnwrap pkt with
  | case5 r0 r1 frag atyp rest _ _ _ hno hl =>
    -- the one `panic` leaf: IPv4, and fewer than six bytes behind the four of the header; the length check excludes it
    have h6 : 6 ≤ rest.length := by simpa using hl
    match rest, h6, hno with
    | _ :: _ :: _ :: _ :: _ :: _ :: _, _, hno => exact (hno _ _ _ _ _ _ _ rfl).elim
  | _ => nofun

example : (connect (some (.userPass [0x75] [0x70])) (.connect (.domain [0x61]) 80)
    [5, 2, 1, 0, 5, 0, 0, 1, 0, 0, 0, 0, 0, 0]).2 = .tcp := by decide
example : (connect none (.connect (.domain [0x61]) 80) [5, 2]).2 = .error .auth := by decide

/-! ## The reply ends where the destination's data begins

What the tunnel over an established connection hands to its client first is whatever follows the proxy's reply (the
model's `afterDialogue`, of which nothing is proved): `readReply` takes exactly the reply - four bytes, the bound address
in the length its type says, the port - and nothing of what is behind it. -/

theorem readExact_append (n : Nat) (a rest : Bytes) (h : a.length = n) :
    readExact n (a ++ rest) = .ok a rest := by
  unfold readExact
  simp [← h]

/-- a success reply with an IPv6 bound address is 4 + 16 + 2 bytes: everything behind it is left for the tunnel -/
theorem reply_v6_consumes_exactly (code : Nat) (a p data : Bytes) (hc : code ≤ 8) (ha : a.length = 16) (hp : p.length = 2) :
    ∃ r, readReply (5 :: code :: 0 :: 4 :: (a ++ (p ++ data))) = .ok r data := by
  have hcode : ¬ code > 8 := Nat.not_lt.2 hc
  simp [readReply_eq, andThen, readAddr, readU8, hcode, readExact_append 16 a (p ++ data) ha,
    readExact_append 2 p data hp]

theorem reply_v4_consumes_exactly (code : Nat) (a p data : Bytes) (hc : code ≤ 8) (ha : a.length = 4) (hp : p.length = 2) :
    ∃ r, readReply (5 :: code :: 0 :: 1 :: (a ++ (p ++ data))) = .ok r data := by
  have hcode : ¬ code > 8 := Nat.not_lt.2 hc
  simp [readReply_eq, andThen, readAddr, readU8, hcode, readExact_append 4 a (p ++ data) ha,
    readExact_append 2 p data hp]
end TT.Socks
