import TT.Model.UdpCodec
import TT.Lemmas.UdpCodec
/-!
# C06  UDP multiplexer wire codec is exact, segmentation-invariant and resynchronising

From `TT/Lemmas/UdpCodec.lean` the statements take `SockWF` and `Datagram.WF`: well-formed datagrams, what 6.3 can
carry and the endpoint accepts.
-/
namespace TT.Udp
open TT TT.Bytes TT.Icmp

/-- **Segmentation invariance, resynchronisation and absence of panics in one statement**: for
every split of the client's byte stream into chunks (empty chunks included), the real decoder
loop behind the re-queueing glue never trips an assertion and produces exactly what an
independent reader of PROTOCOL.md 6.3 produces from the concatenated stream: the accepted
records in order; records it will not accept (declared length < 37, too large, non-UTF-8 name)
are skipped in their entirety. -/
theorem decode_segmentation (chunks : List Bytes) (fuel : Nat)
    (hf : fuel ≥ 2 * (chunks.length + chunks.flatten.length) + 2) :
    ∃ d', decodeStream fuel {} chunks [] = some (specDecode (chunks.flatten.length + 1) chunks.flatten, d') := by
  have h := stream_ok fuel {} chunks [] (hI := (by decide : 0 < 4)) (hp := rfl) (hf := by rw [w_length]; omega)
  simpa [specFrom, spec] using h

/-- **Exactness**: the datagrams the client encoded per 6.3 are decoded back, all fields equal,
in order (zero-length names and payloads included). -/
theorem spec_decode_encode (dgs : List Datagram) (h : ∀ dg ∈ dgs, dg.WF) (fuel : Nat) (hf : fuel ≥ dgs.length + 1) :
    specDecode fuel (dgs.map encodeIn).flatten = dgs := by
  induction dgs generalizing fuel with
  | nil =>
    match fuel, hf with
    | f + 1, _ => rfl
  | cons dg dgs ih =>
    match fuel, hf with
    | f + 1, hf =>
      rw [List.map_cons, List.flatten_cons, specDecode_encodeIn (h dg List.mem_cons_self),
        ih (fun dg' hm => h dg' (List.mem_cons_of_mem _ hm)) f (by simp only [List.length_cons] at hf; omega)]

/-- hence, end to end, for every segmentation -/
theorem decode_encode (dgs : List Datagram) (h : ∀ dg ∈ dgs, dg.WF) (chunks : List Bytes)
    (hc : chunks.flatten = (dgs.map encodeIn).flatten) (fuel : Nat)
    (hf : fuel ≥ 2 * (chunks.length + chunks.flatten.length) + 2) :
    ∃ d', decodeStream fuel {} chunks [] = some (dgs, d') := by
  obtain ⟨d', hd'⟩ := decode_segmentation chunks fuel hf
  refine ⟨d', ?_⟩
  rw [hd', hc, spec_decode_encode dgs h _ (by have := encodeIn_flatten_length dgs; omega)]

/-- **Resynchronisation**: a complete record the endpoint does not accept is skipped entirely and
decoding resumes at the next record boundary -/
theorem resync (len : Nat) (hl : len < 4294967296) (body rest : Bytes) (hb : body.length = len)
    (hr : specRecord len body = none) (fuel : Nat) :
    specDecode (fuel + 1) (u32be len ++ body ++ rest) = specDecode fuel rest := by
  rw [specDecode_record hl hb rest fuel, hr]; rfl

example : specRecord 5 [1, 2, 3, 4, 5] = none := by decide

/-- **6.4 format**: big-endian length excluding itself, 16-byte addresses, IPv4 zero-padded -/
theorem encode_out_length (s d : Ip.Sock) (p : Bytes) :
    (encodeOut s d p).take 4 = u32be (36 + p.length) ∧
    (∀ a b c e, putFixedIp (.v4 a b c e) = [0, 0, 0, 0, 0, 0, 0, 0, 0, 0, 0, 0, a, b, c, e]) ∧
    (∀ ip, (putFixedIp ip).length = 16) := by
  refine ⟨?_, fun _ _ _ _ => rfl, putFixedIp_length⟩
  simp [encodeOut, u32be]

/-- **Bounded buffering**: the decoder never holds more than one maximal payload -/
def Dec.Inv (d : Dec) : Prop :=
  match d.st with
  | .length => d.buffer.length < 4
  | .fixedHeader => d.buffer.length < hdrNoLen ∧ hdrNoLen ≤ d.total
  | .appName l => (d.buffer.length < l ∨ d.buffer = []) ∧ l ≤ 255 ∧ hdrNoLen + l ≤ d.total ∧ d.total ≤ maxIn - l ∧ d.src.isSome ∧ d.dst.isSome
  | .payload n => (d.buffer.length < n ∨ d.buffer = []) ∧ n ≤ maxIn ∧ d.src.isSome ∧ d.dst.isSome
  | .dropping _ => d.buffer = []

theorem inv_init : ({} : Dec).Inv := by
  simp [Dec.Inv]

theorem inv_step (d : Dec) (data : Bytes) (h : d.Inv) (hw : ∀ x ∈ data, x < 256) (hbw : ∀ x ∈ d.buffer, x < 256) :
    ∃ d' out tail, decodeOnce d data = .next d' out tail ∧ d'.Inv := by
  -- `Dec.Inv` is the invariant `SInv` of the simulation together with the bounds `Bnd`
  have parts : ∀ d : Dec, d.Inv ↔ SInv d ∧ Bnd d := by
    rintro ⟨st, total, buffer, src, dst, app⟩
    cases st with
    | length | fixedHeader | dropping => exact ⟨fun h => ⟨h, trivial⟩, And.left⟩
    | appName l =>
      refine ⟨fun ⟨hb, hl, hT, hM, hsd⟩ => ⟨⟨hb.elim Or.inl fun h => ?_, hT, hsd⟩, hl, hM⟩,
        fun ⟨⟨hb, hT, hsd⟩, hl, hM⟩ => ⟨hb.imp id And.right, hl, hT, hM, hsd⟩⟩
      -- an empty buffer is short of a name that has bytes
      exact (Nat.eq_zero_or_pos l).symm.imp (h ▸ ·) (⟨·, h⟩)
    | payload n => exact ⟨fun ⟨hb, hn, hsd⟩ => ⟨⟨hb, hsd⟩, hn⟩, fun ⟨⟨hb, hsd⟩, hn⟩ => ⟨hb, hn, hsd⟩⟩
  obtain ⟨hS, hB⟩ := (parts d).1 h
  obtain ⟨d', out, tail, hstep, ok⟩ := once_ok hS data
  exact ⟨d', out, tail, hstep,
    (parts d').2 ⟨ok.inv, ok.bnd hB fun x hx => (List.mem_append.1 hx).elim (hbw x) (hw x)⟩⟩

theorem inv_buffer_bounded (d : Dec) (h : d.Inv) : d.buffer.length ≤ maxIn := by
  obtain ⟨st, total, buffer, src, dst, app⟩ := d
  cases st with
  | length => exact Nat.le_trans (Nat.le_of_lt h) (by decide)
  | fixedHeader => exact Nat.le_trans (Nat.le_of_lt h.1) (by decide)
  | appName l =>
    obtain ⟨hb | rfl, hl, -⟩ := h
    · exact Nat.le_trans (Nat.le_of_lt hb) (Nat.le_trans hl (by decide))
    · exact Nat.zero_le _
  | payload n =>
    obtain ⟨hb | rfl, hn, -⟩ := h
    · exact Nat.le_trans (Nat.le_of_lt hb) hn
    · exact Nat.zero_le _
  | dropping => exact (show buffer = [] from h) ▸ Nat.zero_le _

/-- **6.4 framing**: the encoded reply is 40 header bytes followed by the payload, verbatim and
complete, and its length field counts exactly what follows it - so a reader that trusts the length
field finds the next reply's length field right behind the payload, for every payload size -/
theorem encode_out_framed (s d : Ip.Sock) (p : Bytes) :
    (encodeOut s d p).length = 4 + (36 + p.length) ∧ (encodeOut s d p).drop 40 = p ∧
    (encodeOut s d p).take 4 = u32be ((encodeOut s d p).length - 4) := by
  have hh : (u32be (36 + p.length) ++ putFixedIp s.ip ++ u16be s.port ++ putFixedIp d.ip ++ u16be d.port).length = 40 := by
    simp only [List.length_append, putFixedIp_length, u16be_length]; rfl
  have hlen : (encodeOut s d p).length = 4 + (36 + p.length) := by
    rw [encodeOut, List.length_append, hh]; omega
  refine ⟨hlen, List.drop_left' hh, ?_⟩
  rw [hlen, Nat.add_sub_cancel_left]
  exact (encode_out_length s d p).1

/-- consecutive replies on one stream: dropping the first reply's declared length leaves exactly the
second reply -/
theorem encode_out_concat (s d s' d' : Ip.Sock) (p p' : Bytes) :
    (encodeOut s d p ++ encodeOut s' d' p').drop (4 + (36 + p.length)) = encodeOut s' d' p' := by
  rw [← (encode_out_framed s d p).1]
  exact List.drop_left

example : encodeOut ⟨.v4 1 2 3 4, 53⟩ ⟨.v4 10 0 0 1, 40000⟩ [7, 8] =
    [0, 0, 0, 38, 0, 0, 0, 0, 0, 0, 0, 0, 0, 0, 0, 0, 1, 2, 3, 4, 0, 53, 0, 0, 0, 0, 0, 0, 0, 0, 0, 0, 0, 0, 10, 0, 0, 1, 156, 64, 7, 8] := by
  decide

end TT.Udp
