import TT.Model.Pipe
import TT.Lemmas.Pipe
import TT.Props.C10
import TT.Model.QuicTimers
import TT.Lemmas.QuicTimers
/-!
# C14  Idle and establishment timeouts fire when, and only when, they should
(idle timer of the TCP tunnel, establishment timeout of a CONNECT, deadline bookkeeping of the QUIC multiplexer;
the TLS-handshake timeout is a `tokio::time::timeout` wrapper that is not modelled, only observed on the live listener)

The statements about the idle timer use `Timer.WF` (a direction's iteration starts no earlier than its last activity,
and `0 < T`) and `Adm` (every event of the list is admissible at the point where it occurs; `AdmAll` says the same),
defined in `TT/Lemmas/Pipe.lean`; `Keyed` (no connection id twice among the deadlines) is defined in
`TT/Lemmas/QuicTimers.lean`.
-/
namespace TT.Pipe
open TT

theorem wf_step (tm : Timer) (e : TEv) (h : tm.WF) (ha : admissible tm e = true) : (tstep tm e).WF :=
  (wf_le_step h ha).1

theorem adm_iff_admAll (tm : Timer) (es : List TEv) : Adm tm es ↔ AdmAll tm es := by
  induction es generalizing tm with
  | nil => simp [Adm, AdmAll]
  | cons e es ih => simp [Adm, AdmAll, ih]

/-! "Never early" does not hold of every transfer in an admissible trace: events listed *after* the closing
time are admissible but never recorded (`tm = ⟨10, 0, 0, 5, 5, none⟩`, `[.fire .left, .progress .left 15]`
closes at 15).  The statements below speak of the transfers recorded while the tunnel was still open. -/

/-- the tunnel is not closed within `T` of the marks it started from -/
theorem idle_not_early_marks (tm : Timer) (es : List TEv) (h0 : tm.expired = none) (hw : tm.WF) (ha : Adm tm es)
    (c : Nat) (hc : (trun tm es).expired = some c) :
    tm.laL + tm.T < c ∧ tm.laR + tm.T < c := by
  -- closed more than `T` after the last marks, which are not before the first
  have hl := late_run es h0 c hc
  obtain ⟨hT, hL, hR⟩ := (trun_wf_le es hw ha).2
  omega

/-- **Never early**: if the tunnel is still open after `es` and is closed by the idle timer at `c`
after `es ++ es'`, then neither direction transferred anything during `[c - T, c]`: every transfer
`t` in `es` satisfies `t + T < c`.  Hence a tunnel that transfers data at least once every `T` (in
either direction) is never closed by the idle timer. -/
theorem idle_not_early (tm : Timer) (es es' : List TEv) (h0 : tm.expired = none) (hw : tm.WF)
    (ha : Adm tm (es ++ es')) (hopen : (trun tm es).expired = none)
    (c : Nat) (hc : (trun tm (es ++ es')).expired = some c) :
    (∀ d t, TEv.progress d t ∈ es → t + tm.T < c) ∧ tm.laL + tm.T < c ∧ tm.laR + tm.T < c := by
  refine ⟨fun d t hm => ?_, idle_not_early_marks tm _ h0 hw ha c hc⟩
  -- `t` is at most the mark after `es`, the marks only grow from there, and the last ones are `T` before `c`
  obtain ⟨ha1, ha2⟩ := adm_append ha
  obtain ⟨hw1, hle⟩ := trun_wf_le es hw ha1
  have h1 := progress_le_mark es hw ha1 hopen hm
  have h2 := idle_not_early_marks _ es' hopen hw1 ha2 c (trun_append tm es es' ▸ hc)
  rw [hle.T] at h2
  cases d
  · have : t ≤ (trun tm es).laL := h1
    omega
  · have : t ≤ (trun tm es).laR := h1
    omega

/-- **A half-closed tunnel is not cut short**: in every state an admissible trace reaches, the time at which the
surviving direction of a half-closed tunnel would be ended by the timer is at least `T` after that direction's
last transfer, and every further transfer moves it to `T` after that transfer -/
theorem half_closed_not_early (tm : Timer) (es : List TEv) (hw : tm.WF) (ha : Adm tm es) (d : Dir) :
    lastActivity (trun tm es) d + tm.T ≤ survivorDeadline (trun tm es) d := by
  obtain ⟨⟨w1, w2, -⟩, hle⟩ := trun_wf_le es hw ha
  rw [← hle.T]
  cases d
  · exact Nat.add_le_add_right w1 _
  · exact Nat.add_le_add_right w2 _

theorem half_closed_transfer_restarts (tm : Timer) (d : Dir) (t : Nat) (h0 : tm.expired = none) :
    survivorDeadline (tstep tm (.progress d t)) d = t + tm.T := by
  cases d <;> simp [tstep, h0, survivorDeadline]

/-- **Never early**, for a trace whose last event is the one that closes: no transfer of the whole trace is
within `T` of the closing time -/
theorem idle_not_early_at_close (tm : Timer) (es : List TEv) (e : TEv) (hw : tm.WF)
    (ha : Adm tm (es ++ [e])) (hopen : (trun tm es).expired = none)
    (c : Nat) (hc : (trun tm (es ++ [e])).expired = some c) :
    (∀ d t, TEv.progress d t ∈ es ++ [e] → t + tm.T < c) ∧ tm.laL + tm.T < c ∧ tm.laR + tm.T < c := by
  have h0 : tm.expired = none := open_of_trun_open hopen
  have hmain := idle_not_early tm es [e] h0 hw ha hopen c hc
  refine ⟨fun d t hm => ?_, hmain.2⟩
  rcases List.mem_append.1 hm with hm | hm
  · exact hmain.1 d t hm
  · -- the last event closes the tunnel, so it is a `fire`, not a `progress`
    simp only [List.mem_singleton] at hm
    subst hm
    rw [trun_append] at hc
    change (tstep (trun tm es) _).expired = some c at hc
    cases d <;> simp [tstep, hopen] at hc

/-- **Closed no later than 2T after the last activity**: from the state right after the last
transfer (at time `a`, on either direction), if nothing is transferred any more the timers fire
and the tunnel is closed at some `c` with `a + T < c ≤ a + 2T`, after at most three expirations -/
theorem idle_bound_2T (tm : Timer) (a : Nat) (h0 : tm.expired = none) (hw : tm.WF)
    (ha : a = max tm.laL tm.laR)
    (hs : tm.sL ≤ a ∧ tm.sR ≤ a ∧ a ≤ tm.sL + tm.T ∧ a ≤ tm.sR + tm.T) :
    ∃ n c, n ≤ 3 ∧ (idleRun n tm).expired = some c ∧ a + tm.T < c ∧ c ≤ a + 2 * tm.T := by
  have hT := hw.2.2
  generalize hm : min tm.sL tm.sR = m
  have h1 : m ≤ a := hm ▸ Nat.le_trans (Nat.min_le_left _ _) hs.1
  have h2 : a ≤ m + tm.T := by rw [← hm, ← Nat.add_min_add_right]; exact Nat.le_min.2 hs.2.2
  -- the firings at `m + T`, `m + 2T`, `m + 3T`
  have e1 := idle_step tm h0 hm ha.symm
  have e2 : tstep _ (idleFire _) =
      if a < m + tm.T then { tm with sL := m + tm.T, sR := m + tm.T, expired := some (m + tm.T + tm.T) }
      else { tm with sL := m + tm.T + tm.T, sR := m + tm.T + tm.T } :=
    idle_step { tm with sL := m + tm.T, sR := m + tm.T } h0 (Nat.min_self _) ha.symm
  have e3 := idle_step { tm with sL := m + tm.T + tm.T, sR := m + tm.T + tm.T } h0 (Nat.min_self _) ha.symm
  -- `omega` would split on every `min` and `max` in sight
  clear hw hs ha hm
  -- the first, at `m + T ≤ a + T`, never closes; the second closes unless `a = m + T`
  rw [if_neg (Nat.not_lt.2 h1)] at e1
  by_cases hlt : a < m + tm.T
  · rw [if_pos hlt] at e2
    exact ⟨2, m + tm.T + tm.T, by decide, by simp only [idleRun, e1, e2], Nat.add_lt_add_right hlt _, by omega⟩
  · have hlt2 : a < m + tm.T + tm.T := Nat.lt_of_le_of_lt h2 (Nat.lt_add_of_pos_right hT)
    rw [if_neg hlt] at e2
    rw [if_pos hlt2] at e3
    exact ⟨3, m + tm.T + tm.T + tm.T, by decide, by simp only [idleRun, e1, e2, e3], Nat.add_lt_add_right hlt2 _,
      by omega⟩

/-- traffic exactly at the deadline keeps the tunnel open: a transfer at `s + T` is admissible
progress and resets the direction's timer -/
theorem progress_at_deadline_keeps_open (tm : Timer) (h0 : tm.expired = none) :
    (tstep tm (.progress .left (tm.sL + tm.T))).expired = none ∧
    (tstep tm (.progress .left (tm.sL + tm.T))).laL = tm.sL + tm.T := by
  simp [tstep, h0]

example : (idleRun 2 ⟨10, 0, 0, 0, 0, none⟩).expired = some 20 := by decide
example : (trun ⟨10, 0, 0, 0, 0, none⟩ [.progress .right 5, .fire .left, .fire .left]).expired = some 20 := by decide
example : (trun ⟨10, 0, 0, 0, 0, none⟩ [.progress .right 10, .fire .left, .fire .left]).expired = none := by decide

end TT.Pipe

/-! ### establishment timeout (`Tunnel::on_tcp_connect_request`, model `TT.Dispatch.handle`) -/
namespace TT.Dispatch
open TT TT.Gen

/-- **An attempt that does not complete within the establishment timeout is reported as 502 with
warning 302** - for every passed CONNECT to an ordinary destination, literal address or host name
alike, whatever the credentials - and nothing else is answered -/
theorem establishment_timeout_reported (r : Req) (hm : r.method = .connect) (policy : Policy) (authn : Option Authn)
    (env : Env) (fa : Option Source) (hg : gate (authInfo r.authHdr) policy authn = .pass fa) (hk : promote r = .tcp)
    (hd : r.authority.isSome = true ∧ (r.isLiteral = true ∨ r.port.isSome = true))
    (ms : Nat) (hc : env.connect = .delayedOk ms) (hlate : env.establishTimeoutMs < ms) :
    handle r policy authn env = [.egress .tcpConnect, .response ⟨502, [.warn 302]⟩] := by
  rw [connect_result r hm policy authn env fa hg hk hd, hc]
  have : ¬ ms ≤ env.establishTimeoutMs := Nat.not_le.2 hlate
  simp [this, failWith, statusOf, warnOf]

/-- an attempt that completes in time is never cut short by the establishment timer -/
theorem establishment_in_time_connected (r : Req) (hm : r.method = .connect) (policy : Policy) (authn : Option Authn)
    (env : Env) (fa : Option Source) (hg : gate (authInfo r.authHdr) policy authn = .pass fa) (hk : promote r = .tcp)
    (hd : r.authority.isSome = true ∧ (r.isLiteral = true ∨ r.port.isSome = true))
    (ms : Nat) (hc : env.connect = .delayedOk ms) (hin : ms ≤ env.establishTimeoutMs) :
    handle r policy authn env = [.egress .tcpConnect, ok200] := by
  rw [connect_result r hm policy authn env fa hg hk hd, hc]
  simp [hin]

/-- the outcome depends on the destination only through "is an ordinary destination": a host name
and a literal address time out alike -/
theorem establishment_timeout_destination_independent (r r' : Req) (hm : r.method = .connect) (hm' : r'.method = .connect)
    (policy : Policy) (authn : Option Authn) (env : Env) (fa fa' : Option Source)
    (hg : gate (authInfo r.authHdr) policy authn = .pass fa) (hg' : gate (authInfo r'.authHdr) policy authn = .pass fa')
    (hk : promote r = .tcp) (hk' : promote r' = .tcp)
    (hd : r.authority.isSome = true ∧ (r.isLiteral = true ∨ r.port.isSome = true))
    (hd' : r'.authority.isSome = true ∧ (r'.isLiteral = true ∨ r'.port.isSome = true)) :
    handle r policy authn env = handle r' policy authn env := by
  rw [connect_result r hm policy authn env fa hg hk hd, connect_result r' hm' policy authn env fa' hg' hk' hd']

example : handle ⟨.connect, some "example.org:443", false, some 443, none⟩ .default_ none
    ⟨.delayedOk 30001, 30000, false, some true, false⟩ = [.egress .tcpConnect, .response ⟨502, [.warn 302]⟩] := by decide
example : handle ⟨.connect, some "example.org:443", false, some 443, none⟩ .default_ none
    ⟨.delayedOk 30000, 30000, false, some true, false⟩ = [.egress .tcpConnect, ok200] := by decide

end TT.Dispatch

/-! ### the QUIC multiplexer's timer bookkeeping (`quic_multiplexer.rs`, model `TT.QuicTimers`)

QUIC's loss-detection, idle and draining timers only do anything when the multiplexer calls
`on_timeout`; it does so from the one place that sleeps until `closest_deadline`. -/
namespace TT.QuicTimers

/-- **No armed deadline is missed**: after every history of datagrams processed (`arm`), connections
removed and loop iterations (`tick`), the instant the loop sleeps until is not later than any
armed deadline - in particular the timer branch is enabled whenever a deadline is armed -/
theorem closest_not_after_any_deadline (ops : List Op) :
    let s := run {} ops
    ∀ e ∈ s.deadlines, ∃ c, s.closest = some c ∧ c ≤ e.2 ∧ s.timerEnabled = true := by
  intro s e he
  obtain ⟨c, hc, hle⟩ := inv_run ops inv_init e he
  exact ⟨c, hc, hle, by show (run {} ops).closest.isSome = true; rw [hc]; rfl⟩

/-- after a loop iteration the sleep target is exactly the earliest armed deadline (it is re-computed,
not only ever moved earlier) ... -/
theorem tick_recomputes (s : St) (now : Nat) (rearm : List (Conn × Nat)) :
    (step s (.tick now rearm)).closest = minDeadline (step s (.tick now rearm)).deadlines := rfl

/-- ... every deadline that had passed was handled (removed, and re-armed only with the connection's
next timer, which lies in the future) ... -/
theorem tick_handles_expired (s : St) (now : Nat) (rearm : List (Conn × Nat)) (hr : ∀ r ∈ rearm, now < r.2) :
    ∀ e ∈ (step s (.tick now rearm)).deadlines, now < e.2 := by
  intro e he
  rcases mem_foldl_put he with h | h
  · simpa using (List.mem_filter.1 h).2
  · exact hr e h

/-- ... so a wake-up always makes progress: afterwards either nothing is armed (the timer branch is
off until the next datagram) or the new sleep target lies in the future - the loop neither spins on a
passed deadline nor stops serving timers after the first one (the defect fixed by 17fbb9c) -/
theorem wake_up_makes_progress (s : St) (now : Nat) (rearm : List (Conn × Nat)) (hr : ∀ r ∈ rearm, now < r.2) :
    let s' := step s (.tick now rearm)
    (s'.deadlines = [] ∧ s'.timerEnabled = false) ∨ (∃ c, s'.closest = some c ∧ now < c) := by
  intro s'
  cases hm : minDeadline s'.deadlines with
  | none => exact .inl ⟨minDeadline_eq_none.1 hm, congrArg Option.isSome (hm : s'.closest = none)⟩
  | some m =>
    obtain ⟨e, he, hem⟩ := (minDeadline_eq_some hm).1
    exact .inr ⟨m, hm, hem ▸ tick_handles_expired s now rearm hr e he⟩

/-- **One deadline per connection** (the model's list stands for the `HashMap<ConnectionId, Instant>`):
after every history no connection id is armed twice, so a re-armed or removed connection leaves no
stale second deadline behind that could wake the loop for a connection that is gone -/
theorem one_deadline_per_connection (ops : List Op) : Keyed (run {} ops).deadlines :=
  keyed_run ops List.nodup_nil

/-- processing a datagram of a connection replaces its deadline: afterwards the connection's only
deadline is the new one ... -/
theorem arm_replaces (s : St) (c : Conn) (t : Nat) :
    (c, t) ∈ (step s (.arm c t)).deadlines ∧ ∀ u, (c, u) ∈ (step s (.arm c t)).deadlines → u = t :=
  ⟨mem_put.2 (.inr rfl), fun _ h => (mem_put.1 h).elim (fun h => absurd rfl h.2) fun h => (Prod.mk.inj h).2⟩

/-- ... and a removed connection (handshake completed, connection closed) has none: the loop is not
woken for it again unless a later datagram re-arms it -/
theorem removed_has_no_deadline (s : St) (c : Conn) (u : Nat) : (c, u) ∉ (step s (.remove c)).deadlines :=
  fun h => ((TT.Keyed.mem_remove Prod.fst).1 h).2 rfl

/-- a connection's passed deadline handled by a loop iteration does not survive it unless the
connection's next timer was armed: with nothing to re-arm, no connection whose deadline had passed is
still armed -/
theorem tick_without_rearm_drops_expired (s : St) (now : Nat) (c : Conn) (u : Nat) (hu : u ≤ now) :
    (c, u) ∉ (step s (.tick now [])).deadlines := by
  intro h
  have := (List.mem_filter.1 h).2
  simp [hu] at this

example :
    let ops := [Op.arm "a" 100, .arm "b" 50, .tick 60 [("b", 90)], .remove "b", .arm "a" 300, .tick 100 [], .tick 400 []]
    (run {} (ops.take 2)).closest = some 50
    ∧ (run {} (ops.take 3)) = ⟨[("a", 100), ("b", 90)], some 90⟩
    ∧ (run {} (ops.take 4)) = ⟨[("a", 100)], some 90⟩          -- stale-early after a removal: harmless
    ∧ (run {} (ops.take 6)) = ⟨[("a", 300)], some 300⟩
    ∧ (run {} ops) = ⟨[], none⟩ := by decide

end TT.QuicTimers
