import TT.Model.ClientHello
import TT.Lemmas.ClientHello
/-!
# C12  ClientHello random is extracted exactly and transparently
-/
namespace TT.CH
open TT TT.Bytes

structure HelloWF (recVersion version random sid suites comps exts : Bytes) : Prop where
  rv : recVersion.length = 2
  v : version.length = 2
  r : random.length = 32
  s : sid.length ≤ 32
  c : suites.length % 2 = 0 ∧ suites.length < 65536
  -- `m`, `e`: what the length fields of `chBody` can hold; no proof uses them
  m : comps.length < 256
  e : exts.length < 65536
  fits : 4 + (chBody version random sid suites comps exts).length ≤ maxRecordLen

/-- **Exact extraction, whatever follows and whatever the extensions** (any size that fits a
record: padding, large key shares): the value is the 32-byte random field -/
theorem extract_exact (recVersion version random sid suites comps exts suffix : Bytes)
    (h : HelloWF recVersion version random sid suites comps exts) :
    extract (chRecord recVersion version random sid suites comps exts ++ suffix) = .found random := by
  obtain ⟨a, b, rfl⟩ := length_eq_two h.rv
  have hfits := h.fits
  rw [chRecord_eq, extract_record (by simp +arith) hfits]
  exact firstHello_hello (parse_chBody comps exts h.v h.r h.s h.c.1 h.c.2)
    (by unfold maxRecordLen at hfits; omega)

/-- every strict prefix of the record asks for more data (never a wrong or early answer) -/
theorem prefix_needs_more (recVersion version random sid suites comps exts : Bytes)
    (h : HelloWF recVersion version random sid suites comps exts) (n : Nat)
    (hn : n < (chRecord recVersion version random sid suites comps exts).length) :
    extract ((chRecord recVersion version random sid suites comps exts).take n) = .needMore := by
  obtain ⟨a, b, rfl⟩ := length_eq_two h.rv
  rw [chRecord_eq] at hn ⊢
  exact extract_take_eq_needMore (by simp +arith) h.fits (by simpa +arith using hn)

/-- **Never some other value**: whatever the input, a reported random is bytes 11..43 of a
handshake record that starts the stream and carries a ClientHello -/
theorem found_is_the_field (data r : Bytes) (h : extract data = .found r) :
    r = (data.drop 11).take 32 ∧ data.head? = some 22 ∧ data[5]? = some 1 ∧ 43 ≤ data.length := by
  -- on fewer than five bytes `extract` computes to `needMore`
  match data, h with
  | t :: v0 :: v1 :: l0 :: l1 :: rest, h =>
    obtain ⟨rfl, hf⟩ := extract_cons_found h
    obtain ⟨h0, h1, h2, body, hp, h35, rfl⟩ := firstHello_found hf
    -- `rest` begins with the payload
    rw [← List.take_append_drop (l0 * 256 + l1) rest, hp]
    refine ⟨?_, rfl, rfl, by simp; omega⟩
    show _ = List.take 32 (List.drop 2 (body ++ _))
    rw [List.drop_append_of_le_length (by omega), List.take_append_of_le_length (by simp; omega)]

/-- the read loop never loses, duplicates or reorders bytes: prebuffer ++ unread = the stream -/
theorem loop_conserves (avail : List Nat) (pre stream : Bytes) :
    let res := readLoop avail pre stream
    res.2.1 ++ res.2.2 = pre ++ stream := by
  -- the cases of `readLoop`: 6 the prebuffer needs more and the read took `n > 0` bytes (the only one that goes on);
  -- the others return `pre` and `stream` as they are
  fun_induction readLoop avail pre stream with
  | case6 _ _ _ _ _ _ _ _ _ ih => simp only at ih ⊢; rw [ih]; simp
  | _ => rfl

/-- **Segmentation invariance of the loop**: for every arrival schedule (every segmentation and
timing of the first flight) long enough to deliver the record, the loop reports exactly the
random, provided the record plus one read chunk fits the 16 KiB prebuffer (the loop re-examines
the prebuffer only while it is shorter than the cap) -/
theorem loop_segmentation_invariant (recVersion version random sid suites comps exts suffix : Bytes)
    (h : HelloWF recVersion version random sid suites comps exts)
    (hfit : (chRecord recVersion version random sid suites comps exts).length + readChunk ≤ maxPrebuffer)
    (avail : List Nat)
    (hlen : avail.length > (chRecord recVersion version random sid suites comps exts).length) :
    (readLoop avail [] (chRecord recVersion version random sid suites comps exts ++ suffix)).1 = some random := by
  exact readLoop_finds_record (prefix_needs_more _ _ _ _ _ _ _ h) (fun sfx => extract_exact _ _ _ _ _ _ _ sfx h) hfit
    rfl (by decide) (by simpa using hlen)

/-- whatever the stream, the loop's answer is absent or the field of the stream's first record -/
theorem loop_absent_never_wrong (avail : List Nat) (stream r : Bytes)
    (h : (readLoop avail [] stream).1 = some r) :
    r = (stream.drop 11).take 32 := by
  obtain ⟨hr, -, -, hlen⟩ := found_is_the_field _ r (extract_of_readLoop_eq_some h)
  have hc : _ ++ _ = stream := loop_conserves avail [] stream
  rw [hr]
  conv => rhs; rw [← hc]
  rw [List.drop_append_of_le_length (by omega), List.take_append_of_le_length (by simp; omega)]

/-- **Transparent replay**: whatever buffer sizes the TLS stack reads with, it receives the
prebuffer followed by the rest of the socket: the concatenation of what the reads returned is a
prefix of `pre ++ rest`, and nothing else -/
theorem replay_transparent (caps : List Nat) (pre rest : Bytes) (pos : Nat) (hp : pos ≤ pre.length) :
    ∃ k, (replayReads caps pre pos rest).flatten = ((pre.drop pos) ++ rest).take k :=
  (replay_take caps pre rest pos hp).imp fun _ h => h.1

/-- and with positive buffers and enough reads everything is delivered -/
theorem replay_complete (caps : List Nat) (pre rest : Bytes) (hc : ∀ c ∈ caps, 0 < c)
    (hl : caps.length ≥ pre.length + rest.length) :
    (replayReads caps pre 0 rest).flatten = pre ++ rest := by
  obtain ⟨k, hk, hb⟩ := replay_take caps pre rest 0 (Nat.zero_le _)
  rw [hk, List.drop_zero, List.take_of_length_le]
  have := hb hc
  rw [List.length_append]
  omega

/-- **An answer does not depend on what arrives later**: once the bytes received so far yield an
answer (a client random, or "not a ClientHello"), any further bytes leave it unchanged - so the
answer cannot depend on how much of the client's later flight happened to be in the buffer -/
theorem answer_stable (data sfx : Bytes) (h : extract data ≠ .needMore) :
    extract (data ++ sfx) = extract data := by
  -- on fewer than five bytes `extract` computes to `needMore`
  match data, h with
  | t :: v0 :: v1 :: l0 :: l1 :: rest, h =>
    simp only [List.cons_append, extract_cons] at h ⊢
    by_cases hlen : l0 * 256 + l1 > maxRecordLen
    · rw [if_pos hlen, if_pos hlen]
    · simp only [if_neg hlen] at h ⊢
      have hshort : ¬ rest.length < l0 * 256 + l1 := fun hs => h (if_pos hs)
      rw [if_neg hshort, if_neg (by rw [List.length_append]; omega),
        List.take_append_of_le_length (Nat.le_of_not_lt hshort)]

/-- **The prebuffer never exceeds 16 KiB**, whatever the client sends and however it arrives -/
theorem loop_prebuffer_bounded (avail : List Nat) (pre stream : Bytes) (hp : pre.length ≤ maxPrebuffer) :
    (readLoop avail pre stream).2.1.length ≤ maxPrebuffer := by
  -- case 6 of `readLoop` is the only one that goes on, with `n > 0` more bytes in the prebuffer; the rest return `pre`
  fun_induction readLoop avail pre stream with
  | case6 a _ pre stream hcap _ _ n _ ih =>
    apply ih
    have : n ≤ maxPrebuffer - pre.length := (readSize_le a pre.length stream.length).2.2
    clear_value n  -- `omega` would look into the value of `n`
    rw [List.length_append, List.length_take]
    omega
  | _ => exact hp

/-- a complete first record that is not a handshake record is answered at once (no client random,
no waiting for more) -/
theorem non_handshake_record_not_found (t v0 v1 l0 l1 : Nat) (rest : Bytes) (ht : t ≠ 22)
    (hfull : l0 * 256 + l1 ≤ rest.length) :
    extract (t :: v0 :: v1 :: l0 :: l1 :: rest) = .notFound := by
  rw [extract_cons]
  split
  · rfl
  · rw [if_neg (Nat.not_lt.2 hfull), if_pos (by simpa using ht)]

example : extract [23, 3, 3, 0, 2, 1, 2] = .notFound ∧ extract ([23, 3, 3, 0, 2, 1, 2] ++ [5, 5]) = .notFound ∧
    extract [23, 3, 3, 0, 2, 1] = .needMore := by decide

example : extract (chRecord [3, 1] [3, 3] (List.replicate 32 7) [] [0x13, 0x01] [0] [] ++ [9, 9]) =
    .found (List.replicate 32 7) := by decide +kernel

end TT.CH
