import TT.Props.C04
import TT.Props.C06
import TT.Props.C08
import TT.Props.C11
import TT.Props.C12
import TT.Props.C15
import TT.Lemmas.Fwd
/-!
# C09  No untrusted input can panic, wedge or unboundedly grow the endpoint

One theorem per parser of untrusted bytes: the model of the parser returns `panic` exactly where
the Rust primitives would (`Buf::advance`, `get_u8/16/32`, `split_to`, `split_off`, slice
indexing, `unwrap`, `assert!`), and the theorems show that value is unreachable; progress and
buffer bounds are stated next to them.  The byte-level models are tied to the code by the C06,
C08, C11, C12, C15 correspondence suites and by the dedicated `c09` suite (exhaustive short
strings over a reduced alphabet, under `catch_unwind`).
-/
namespace TT.C09
open TT

/-! ### UDP multiplexer stream (client bytes, any segmentation) -/

/-- never a panic, for every chunking (the decoder result exists) -/
theorem udp_stream_no_panic (chunks : List Bytes) :
    ∃ out d', Udp.decodeStream (2 * (chunks.length + chunks.flatten.length) + 2) {} chunks [] = some (out, d') := by
  obtain ⟨d', h⟩ := Udp.decode_segmentation chunks _ (Nat.le_refl _)
  exact ⟨_, d', h⟩

/-- one decoder step from any reachable state neither panics nor leaves the buffer bound -/
theorem udp_step_safe (d : Udp.Dec) (data : Bytes) (h : d.Inv) (hw : ∀ x ∈ data, x < 256)
    (hbw : ∀ x ∈ d.buffer, x < 256) :
    ∃ d' out tail, Udp.decodeOnce d data = .next d' out tail ∧ d'.Inv ∧ d'.buffer.length ≤ Udp.maxIn := by
  obtain ⟨d', out, tail, h1, h2⟩ := Udp.inv_step d data h hw hbw
  exact ⟨d', out, tail, h1, h2, Udp.inv_buffer_bounded d' h2⟩

/-! ### ICMP multiplexer stream and raw ICMP / ICMPv6 packets from the network -/

theorem icmp_request_decoder_safe (buffer chunk : Bytes) (hb : buffer.length < Icmp.reqSize) :
    Icmp.onMessageChunk buffer chunk ≠ .panic := by
  rcases Icmp.decoder_step_safe buffer chunk hb with ⟨b', h, _⟩ | ⟨raw, tail, h, _⟩ <;> simp [h]

theorem ip_header_skipping_safe (p : Bytes) :
    (Icmp.skipIpv4Header p).isOk = true ∧ (Icmp.skipIpv6Header p).isOk = true :=
  ⟨Icmp.skipIpv4_no_panic p, Icmp.skipIpv6_no_panic p⟩

theorem icmp_packets_safe (p : Bytes) (m : Icmp.Msg) :
    Icmp.deserializeV4 p ≠ .panic ∧ Icmp.deserializeV6 p ≠ .panic ∧
    Icmp.respondedV4 m ≠ .panic ∧ Icmp.respondedV6 m ≠ .panic :=
  ⟨Icmp.deserializeV4_no_panic p, Icmp.deserializeV6_no_panic p, Icmp.respondedV4_no_panic m, Icmp.respondedV6_no_panic m⟩

/-! ### first bytes of a TLS connection -/

/-- the ClientHello walk is a total function (no panicking primitive is used by the model: every
access is a pattern match or a length-checked `take`/`drop`), and the prebuffer is capped -/
theorem client_hello_prebuffer_bounded (avail : List Nat) (stream : Bytes) :
    (CH.readLoop avail [] stream).2.1.length ≤ CH.maxPrebuffer :=
  CH.loop_prebuffer_bounded avail [] stream (Nat.zero_le _)

/-! ### HTTP/1.1 request heads -/

theorem h1_head_bounded_and_progress (p : H1.Parser) (buf : Bytes) (reads : List Bytes) (m : Nat)
    (hb : buf.length < H1.headCap) (hm : ∀ r ∈ reads, r.length ≤ m) :
    H1.maxBuffered p buf reads < H1.headCap + m ∧
    (H1.itersWaiting p buf reads).length ≤ reads.length + 1 :=
  ⟨H1.head_bounded p buf reads m hb hm, (H1.no_spin p buf reads).2.1⟩

/-! ### SOCKS5 server replies and relayed datagrams -/

theorem socks_udp_datagram_safe (pkt : Bytes) : Socks.udpUnwrap pkt ≠ .panic := Socks.udp_unwrap_no_panic pkt

/-- a truncated reply is an error of the request, never a success -/
theorem socks_truncated_reply_is_error (b : Bytes) (r : Socks.Reply) (rest : Bytes)
    (h : Socks.readReply b = .ok r rest) (n : Nat) (hn : n < b.length - rest.length) :
    ∃ e, Socks.readReply (b.take n) = .err e ∧ e = .io := Socks.reply_truncation_is_error b r rest h n hn

/-! ### origin responses of a plain-HTTP forwarding (the origin is untrusted input too) -/

/-- **The response path never loops without consuming input**: in every state reached from the start by
any origin byte stream in any segmentation and any acceptance pattern of the client, one `write` of the
forwarded sink with non-empty data strictly decreases (bytes handed back as unsent + entries left in
the client's acceptance script) - so the pipe's write / wait_writable loop on a segment ends after at
most `segment length + script length` rounds, whatever the origin sent (bytes beyond the announced
Content-Length, a body on a bodiless response, broken chunk framing ...). -/
theorem forwarded_sink_never_spins (ver : Fwd.Ver) (method : Bytes) (quotas : List Nat) (segs : List Bytes) (d : Bytes)
    (hd : d ≠ []) :
    let s := Fwd.feed (Fwd.Sink.init ver method quotas) segs
    (s.write d).2.length + (s.write d).1.quotas.length < d.length + s.quotas.length :=
  (Fwd.write_post _ d (Fwd.runSink_inv ver method quotas segs) hd).fuel

/-- with a client that takes everything it is offered, a `write` hands back strictly less than it was given -/
theorem forwarded_sink_consumes (s : Fwd.Sink) (d : Bytes) (hi : Fwd.Inv s) (hd : d ≠ []) (hq : s.quotas = []) :
    (s.write d).2.length < d.length := by
  have h := (Fwd.write_post s d hi hd).fuel
  rw [hq] at h
  simp only [List.length_nil] at h
  omega

/-- and a failed sink stays failed with nothing handed back (the pipe ends instead of retrying) -/
theorem forwarded_sink_failure_is_final (s : Fwd.Sink) (d : Bytes) (hi : Fwd.Inv s) (hd : d ≠ [])
    (hf : (s.write d).1.failed = true) : (s.write d).1.phase = .idle ∧ (s.write d).2 = [] :=
  (Fwd.write_post s d hi hd).dead hf

/-! ### rules -/

/-- rule matching is total and a malformed rule matches nothing (no panic on any rules text) -/
theorem rules_malformed_safe (r : Rules.Rule) (ip : Rules.Addr) (random : Option Bytes)
    (h : r.cidr = .invalid ∨ ∃ pat rnd, r.pattern = some pat ∧ random = some rnd ∧ Rules.patternMatches pat rnd = none) :
    r.matches ip random = false := Rules.malformed_never_matches r ip random h

end TT.C09
