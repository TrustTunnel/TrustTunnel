import TT.Model.Pipe
import TT.Lemmas.Pipe
import TT.Model.H3Streams
import TT.Lemmas.H3Streams
/-!
# C02  TCP tunnel relays the byte stream exactly, both ways

All statements quantify over *every* sequence of environment answers: every chunking of the
source, every partial-write quota of the sink (including 0), every position of a read / write /
consume / eof / flush error, and every interleaving of timer expirations (which cancel and
restart the copy loop).

The statements use `Reachable` (the states reachable from a fresh pipe), defined in `TT/Lemmas/Pipe.lean`; those about
the stream table use `Inv` (one entry per stream, none with both directions shut down) and `Op.streamId` (the stream
an operation speaks of), defined in `TT/Lemmas/H3Streams.lean`.
-/
namespace TT.Pipe
open TT

/-- **No loss, duplication or reordering**: at every moment, what the sink has accepted followed
by what the pipe still holds is exactly what the source has produced -/
theorem stream_invariant (rs : List Resp) (h : (run {} rs).phase ≠ .failed) :
    (run {} rs).delivered ++ pendingBytes (run {} rs) = (run {} rs).readSoFar := by
  have hi := inv_run rs inv_init
  generalize run {} rs = s at h hi
  obtain ⟨ph, _, _, _, _, _, _, _⟩ := s  -- with the state taken apart, `Inv` and `pendingBytes` compute
  cases ph
  case top => exact hi.1
  case gotData | wrote | metered => exact hi.2.1
  case eofing | flushing | finished => cases hi.1; exact (List.append_nil _).trans hi.2.1
  case failed => exact absurd rfl h

/-- even on the failure path nothing is invented or reordered: delivered bytes are a prefix of
what was read -/
theorem delivered_is_prefix (rs : List Resp) : (run {} rs).delivered <+: (run {} rs).readSoFar :=
  (inv_weak (inv_run rs inv_init)).1

/-- **Credit equals bytes forwarded**: the receive-window credit returned to the sender
(`consume`) never exceeds, and at every loop head equals, the number of its bytes the sink
accepted; the metrics callback reports the same amounts -/
theorem credit_le_forwarded (rs : List Resp) :
    (run {} rs).consumed ≤ (run {} rs).delivered.length ∧ (run {} rs).metered ≤ (run {} rs).delivered.length :=
  (inv_weak (inv_run rs inv_init)).2

theorem credit_eq_forwarded_at_loop_head (rs : List Resp) (h : (run {} rs).phase = .top) :
    (run {} rs).consumed = (run {} rs).delivered.length ∧ (run {} rs).metered = (run {} rs).delivered.length := by
  have hi := inv_run rs inv_init
  simp only [Inv, h] at hi
  exact hi.2

/-- **End-of-stream is passed on only after all preceding bytes were delivered**, and a finished
direction delivered everything: `Finished` implies the source reported EOF, every byte read was
accepted by the sink, and all of it was credited -/
theorem finished_complete (rs : List Resp) (h : (run {} rs).phase = .finished) :
    (run {} rs).sawEof = true ∧ (run {} rs).delivered = (run {} rs).readSoFar ∧
    (run {} rs).pending = none ∧ (run {} rs).consumed = (run {} rs).delivered.length := by
  have hi := inv_run rs inv_init
  simp only [Inv, h] at hi
  exact ⟨hi.2.2.1, hi.2.1, hi.1, hi.2.2.2.1⟩

theorem eof_only_when_drained (rs : List Resp)
    (h : (run {} rs).phase = .eofing ∨ (run {} rs).phase = .flushing) :
    (run {} rs).delivered = (run {} rs).readSoFar ∧ (run {} rs).pending = none := by
  have hi := inv_run rs inv_init
  rcases h with h | h <;> simp only [Inv, h] at hi <;> exact ⟨hi.2.1, hi.1⟩

/-- order of calls: `eof()` is issued after the last `write`, `flush()` after `eof()` -/
theorem eof_after_writes (rs : List Resp) (pre post : List Call) (h : calls {} rs = pre ++ Call.sinkEof :: post) :
    (∀ c ∈ post, ∀ d, c ≠ Call.write d) ∧ (∀ c ∈ post, c = Call.flush) := by
  have hf := calls_split_eof rs pre post h
  refine ⟨fun c hc d hcd => ?_, hf⟩
  cases (hf c hc).symm.trans hcd

/-- **Cancellation and restart by the idle timer loses nothing**: a `timeout` answer changes
neither the delivered bytes, nor the pending chunk, nor the credit -/
theorem restart_preserves (s : St) (h : s.phase = .top) :
    let s' := feed s .timeout
    s'.phase = .top ∧ s'.pending = s.pending ∧ s'.delivered = s.delivered ∧ s'.readSoFar = s.readSoFar ∧
    s'.consumed = s.consumed := by
  obtain ⟨_, _, _, _, _, _, _, _⟩ := s  -- so that `feed` computes; `simp [feed, h]` costs forty times as much
  cases h
  exact ⟨rfl, rfl, rfl, rfl, rfl⟩

/-- **A failure stops the direction at once**: after an error no further call is issued -/
theorem no_call_after_failure (rs rs' : List Resp) (h : (run {} rs).phase = .failed) :
    next (run {} (rs ++ rs')) = none ∧ (run {} (rs ++ rs')).delivered = (run {} rs).delivered := by
  rw [run_append, run_failed rs' h]
  exact ⟨by simp [next, h], rfl⟩

/-! ### both directions -/

/-- **Clean end iff both directions ended**, and a failure on either side tears the whole tunnel
down: the outcome is `ok` exactly when both simplex pipes finished, and once the outcome is
decided neither direction is advanced any more (no write after the failure, in either direction) -/
theorem duplex_clean_end (evs : List (Dir × Resp)) :
    (drun {} evs).outcome = .ok → (drun {} evs).left.phase = .finished ∧ (drun {} evs).right.phase = .finished :=
  (dinv_run evs dinv_init).ok

theorem duplex_error_teardown (evs evs' : List (Dir × Resp)) (h : (drun {} evs).outcome = .error) :
    drun {} (evs ++ evs') = drun {} evs := by
  rw [drun_append]
  exact drun_decided evs' (by simp [h])

theorem duplex_failure_is_error (evs : List (Dir × Resp)) (h : (drun {} evs).outcome = .running) :
    (drun {} evs).left.phase ≠ .failed ∧ (drun {} evs).right.phase ≠ .failed :=
  (dinv_run evs dinv_init).running h

/-- each direction of a duplex pipe is itself a reachable simplex pipe, so all the statements
above hold for both directions of every tunnel -/
theorem duplex_directions_reachable (evs : List (Dir × Resp)) :
    Reachable (drun {} evs).left ∧ Reachable (drun {} evs).right :=
  ⟨(dinv_run evs dinv_init).left, (dinv_run evs dinv_init).right⟩

example : (run {} [.chunk [1, 2, 3], .accepted 2, .unit, .unit, .timeout, .unit, .accepted 1, .unit, .unit,
    .eof, .unit, .unit]).phase = .finished := by decide
example : (run {} [.chunk [1, 2, 3], .accepted 2, .unit, .unit, .timeout, .unit, .accepted 1, .unit, .unit,
    .eof, .unit, .unit]).delivered = [1, 2, 3] := by decide

end TT.Pipe

/-! ### the HTTP/3 codec's stream table (`http3_codec.rs`, model `TT.H3Streams`)

An HTTP/3 tunnel's two directions end independently; the codec's table says which half of which
stream is still open. -/
namespace TT.H3Streams

theorem table_invariant (ops : List Op) : Inv (run [] ops) :=
  inv_run ops ⟨List.nodup_nil, nofun⟩

/-- **The end of the client's sending side leaves the response side alone** (the table is not
touched: the stream stays until its own writer ends it) -/
theorem read_finished_keeps_response_side (t : Table) (id : Nat) : step t (.readFinished id) = t := rfl

/-- a reset by the client removes the stream, whatever state it was in -/
theorem reset_removes_stream (t : Table) (id : Nat) (h : Inv t) : ∀ e ∈ step t (.close id), e.id ≠ id := by
  -- `h` is not needed; it is mentioned so that the unused-variable linter stays quiet
  have _ := h
  exact shutdown_both_removes t id

/-- shutting one half down keeps the stream with exactly that half closed; the second half removes it,
in either order -/
theorem halves_end_independently (t : Table) (id : Nat) (h : Inv t) (he : ⟨id, false, false⟩ ∈ t) :
    (⟨id, true, false⟩ ∈ step t (.shutdown id .read)) ∧
    (⟨id, false, true⟩ ∈ step t (.shutdown id .write)) ∧
    (∀ e ∈ run t [.shutdown id .read, .shutdown id .write], e.id ≠ id) ∧
    (∀ e ∈ run t [.shutdown id .write, .shutdown id .read], e.id ≠ id) := by
  have hr := shutdown_half h he .read rfl
  have hw := shutdown_half h he .write rfl
  exact ⟨hr, hw, shutdown_last (inv_step (.shutdown id .read) h) hr .write rfl,
    shutdown_last (inv_step (.shutdown id .write) h) hw .read rfl⟩

/-- **Streams do not disturb each other**: an operation on one stream leaves every other stream's
entry exactly as it was -/
theorem other_streams_untouched (t : Table) (op : Op) (e : Entry) (hne : e.id ≠ op.streamId) :
    e ∈ step t op ↔ e ∈ t := by
  cases op with
  | request id =>
    show e ∈ t.filter (fun x => x.id != id) ++ [⟨id, false, false⟩] ↔ e ∈ t
    rw [Keyed.mem_put Entry.id]
    constructor
    · rintro (h | rfl)
      · exact h.1
      · exact absurd rfl hne
    · intro h
      exact .inl ⟨h, hne⟩
  | readFinished id => exact Iff.rfl
  | close id | shutdown id _ | failed id => exact shutdown_mem_of_ne t _ hne

/-- an operation on a stream that is not (or no longer) in the table changes nothing - except a new
request, which adds exactly one open entry -/
theorem unknown_stream_is_noop (t : Table) (op : Op) (hu : ∀ e ∈ t, e.id ≠ op.streamId) :
    step t op = match op with
      | .request id => t ++ [⟨id, false, false⟩]
      | _ => t := by
  cases op with
  | request id =>
    exact congrArg (· ++ [⟨id, false, false⟩]) (List.filter_eq_self.2 fun a ha => bne_iff_ne.2 (hu a ha))
  | readFinished id => rfl
  | close id | shutdown id _ | failed id => exact shutdown_of_unknown _ hu

/-- **A stream that is gone stays gone**: once a stream has no entry (both halves ended, or reset),
no later operation - late shutdown messages from its dropped halves, failures, operations on other
streams - brings an entry for it back; only a new request with that id does. So late messages of a
finished stream cannot leave a stale entry behind -/
theorem removed_stays_removed (ops : List Op) (t : Table) (id : Nat) (hu : ∀ e ∈ t, e.id ≠ id)
    (hno : ∀ op ∈ ops, op ≠ .request id) : ∀ e ∈ run t ops, e.id ≠ id :=
  List.foldlRecOn ops step (motive := fun t : Table => ∀ e ∈ t, e.id ≠ id) hu fun t h op hop e he heq => by
    by_cases hid : op.streamId = id
    · -- on a stream that is not there, only a request does anything
      subst hid
      have hnoop := unknown_stream_is_noop t op h
      cases op with
      | request _ => exact hno _ hop rfl
      | _ => rw [hnoop] at he; exact h e he heq
    · exact h e ((other_streams_untouched t op e fun hh => hid (hh.symm.trans heq)).1 he) heq

/-- after a reset of a stream, whatever follows short of a new request with its id (late messages of its
halves, traffic of other streams) leaves no entry for it -/
theorem finished_stream_leaves_no_entry (t : Table) (id : Nat) (late : List Op)
    (hno : ∀ op ∈ late, op ≠ .request id) : ∀ e ∈ run (step t (.close id)) late, e.id ≠ id :=
  removed_stays_removed late _ id (shutdown_both_removes t id) hno

/-- a new request opens its stream with both halves open, whatever an earlier stream of that id left
behind: afterwards the only entry for the id is the fresh one -/
theorem request_opens_fresh (t : Table) (id : Nat) :
    (⟨id, false, false⟩ : Entry) ∈ step t (.request id) ∧
    ∀ e ∈ step t (.request id), e.id = id → e = ⟨id, false, false⟩ :=
  ⟨(Keyed.mem_put Entry.id).2 (.inr rfl),
   fun _ he heq => ((Keyed.mem_put Entry.id).1 he).elim (fun h => absurd heq h.2) fun h => h⟩

example : run [] [.request 0, .shutdown 0 .both, .request 4, .readFinished 4, .shutdown 4 .read, .request 8,
    .shutdown 4 .write, .close 8, .failed 8] = [] := by decide
example : run [] [.request 0, .request 4, .readFinished 0, .shutdown 0 .read, .shutdown 4 .write]
    = [⟨0, true, false⟩, ⟨4, false, true⟩] := by decide

end TT.H3Streams
