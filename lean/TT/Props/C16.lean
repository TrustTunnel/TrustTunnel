import TT.Model.Metrics
import TT.Lemmas.Metrics
import TT.Gen.MetricsDoc
/-!
# C16  Metrics equal the live objects and relayed bytes, and are exported

The model keeps the live objects and the metric cells separately; the cells change only where the
code creates or drops a guard or calls `update_metrics`. The theorems quantify over every history
of session opens/closes, tunnel opens (connected, refused, hanging, UDP multiplexer), tunnel
closes (client end, client reset, origin close), data transfers, UDP datagrams/replies and clock
advances (connect timeouts, idle expiry, UDP flow expiry).

Every statement speaks of `after c ops`, the state that the history `ops` leaves when run from the empty state; it is
defined in `TT/Lemmas/Metrics.lean`.
-/
namespace TT.Metrics

/-! ## Conservation: every increment meets exactly one decrement on every path -/

/-- **at every moment the gauges equal the number of live objects**: sessions holding a session
guard per protocol, tunnels holding a TCP socket guard (connecting or relaying), UDP sockets of
all multiplexers -/
theorem cells_equal_objects (c : Cfg) (ops : List Op) :
    let s := after c ops
    s.cells.s1 = (liveSessions s .h1 : Int) ∧ s.cells.s2 = (liveSessions s .h2 : Int) ∧
    s.cells.s3 = (liveSessions s .h3 : Int) ∧
    s.cells.tcp = (liveTcp s : Int) ∧ s.cells.udp = (liveUdp s : Int) :=
  (run_eq4 c ops).live

/-- no gauge is ever negative -/
theorem gauges_nonneg (c : Cfg) (ops : List Op) :
    let s := after c ops
    0 ≤ s.cells.s1 ∧ 0 ≤ s.cells.s2 ∧ 0 ≤ s.cells.s3 ∧ 0 ≤ s.cells.tcp ∧ 0 ≤ s.cells.udp := by
  have h := run_eq4 c ops
  exact ⟨h.s1 ▸ Int.natCast_nonneg _, h.s2 ▸ Int.natCast_nonneg _, h.s3 ▸ Int.natCast_nonneg _,
    h.tcp ▸ Int.natCast_nonneg _, h.udp ▸ Int.natCast_nonneg _⟩

/-- **when all clients are gone** the session gauges and the UDP socket gauge are zero at once
(a multiplexer ends with its client) ... -/
theorem all_clients_gone_sessions_udp_zero (c : Cfg) (ops : List Op)
    (h : ∀ x ∈ (after c ops).sess, x.alive = false) :
    let s := after c ops
    s.cells.s1 = 0 ∧ s.cells.s2 = 0 ∧ s.cells.s3 = 0 ∧ s.cells.udp = 0 :=
  gone_sessions_udp_zero (run_eq4 c ops) (run_inv2 c ops) (not_alive_of_mem h)

/-- ... and the TCP socket gauge is zero once the connect timeout and the idle timeout have run
out (an origin connection whose client vanished lingers until the endpoint writes to the client
or the tunnel idles out - that is what the code does, see DESIGN.md) -/
theorem all_clients_gone_everything_zero (c : Cfg) (ops : List Op) (ms : Nat)
    (h : ∀ x ∈ (after c ops).sess, x.alive = false)
    (hi : 2 * c.tcpIdle ≤ ms) (he : c.establish ≤ ms) :
    let s := after c (ops ++ [.adv ms])
    s.cells.s1 = 0 ∧ s.cells.s2 = 0 ∧ s.cells.s3 = 0 ∧ s.cells.tcp = 0 ∧ s.cells.udp = 0 := by
  rw [after_snoc]
  have ok := step_ok c (after c ops) (.adv ms)
  -- no session comes alive while the clock advances
  obtain ⟨a, b, b3, d⟩ := gone_sessions_udp_zero (ok.eq4 (run_eq4 c ops)) (ok.inv2 (run_inv2 c ops))
    fun k hk => not_alive_of_mem h k ((adv_swept c ms _).1.fr.alive k hk)
  exact ⟨a, b, b3, adv_tcp_zero c ms (run_eq4 c ops) (run_inv2 c ops) hi he, d⟩

/-- a refused connect leaves the TCP gauge where it was (guard created and dropped) -/
theorem refused_connect_balanced (c : Cfg) (ops : List Op) (i : Nat) :
    (after c (ops ++ [.tunOpen i .dead])).cells.tcp = (after c ops).cells.tcp := by
  rw [after_snoc]
  exact step_dead_tcp c _ i

/-- a connect that never completes holds its guard exactly until the establishment timeout
(`hn`: the session can still take a tunnel - an HTTP/1.1 connection carries only one) -/
theorem hanging_connect_released_by_timeout (c : Cfg) (ops : List Op) (i ms : Nat)
    (ha : aliveS (after c ops) i = true)
    (hn : ¬ (protoOf (after c ops) i = .h1 ∧ (after c ops).tuns.any (·.sess = i) = true))
    (he : c.establish ≤ ms) :
    (after c (ops ++ [.tunOpen i .hang])).cells.tcp = (after c ops).cells.tcp + 1 ∧
    (after c (ops ++ [.tunOpen i .hang, .adv ms])).cells.tcp ≤ (after c ops).cells.tcp := by
  simp only [after_append, run, List.foldl]
  generalize after c ops = s at *
  rw [step_hang c s i ha hn]
  have last : s.tuns.length < (s.tuns ++ [(⟨i, .connecting s.now⟩ : Tun)]).length := by simp
  have pending : ((s.tuns ++ [(⟨i, .connecting s.now⟩ : Tun)]).getD s.tuns.length default).st
      = .connecting s.now := congrArg Tun.st (getD_append_last ..)
  have due : s.now + c.establish ≤ s.now + ms := Nat.add_le_add_left he s.now
  exact ⟨rfl, Int.le_of_lt_add_one (adv_releases_due c ms _ last pending due)⟩

/-! ## Relayed bytes -/

/-- **A scrape never shows a byte counter lower than an earlier scrape did**, whatever happened in
between (sessions and tunnels opening and closing, clients vanishing, timeouts) -/
theorem counters_never_decrease (c : Cfg) (ops more : List Op) :
    let a := (after c ops).cells
    let b := (after c (ops ++ more)).cells
    a.up1 ≤ b.up1 ∧ a.up2 ≤ b.up2 ∧ a.up3 ≤ b.up3 ∧ a.dn1 ≤ b.dn1 ∧ a.dn2 ≤ b.dn2 ∧ a.dn3 ≤ b.dn3 := by
  rw [after_append]
  exact (run_ok c _ more).ctr

/-- the counters only grow -/
theorem counters_monotone (c : Cfg) (ops : List Op) (op : Op) :
    let a := (after c ops).cells
    let b := (after c (ops ++ [op])).cells
    a.up1 ≤ b.up1 ∧ a.up2 ≤ b.up2 ∧ a.up3 ≤ b.up3 ∧ a.dn1 ≤ b.dn1 ∧ a.dn2 ≤ b.dn2 ∧ a.dn3 ≤ b.dn3 :=
  counters_never_decrease c ops [op]

/-- **bytes relayed client -> origin on a relaying tunnel are added, exactly, to the counter of
that session's protocol** and to nothing else -/
theorem up_adds_exactly (c : Cfg) (ops : List Op) (t n : Nat) (oe : Bool)
    (h : ((after c ops).tuns.getD t default).st = .open false false oe) :
    let s := after c ops
    (after c (ops ++ [.up t n])).cells = s.cells.addUp (protoOf s (s.tuns.getD t default).sess) n := by
  rw [after_snoc]
  dsimp only [step]
  rw [h]

/-- the same for origin -> client, as long as the client is there (also after it half-closed) and
the origin has not ended its stream -/
theorem down_adds_exactly (c : Cfg) (ops : List Op) (t n : Nat) (ce : Bool)
    (h : ((after c ops).tuns.getD t default).st = .open ce false false) :
    let s := after c ops
    (after c (ops ++ [.down t n])).cells = s.cells.addDn (protoOf s (s.tuns.getD t default).sess) n := by
  rw [after_snoc]
  dsimp only [step]
  rw [h]

/-- data offered on a tunnel that is not relaying in that direction (closed, still connecting,
client already ended, client vanished) counts nothing -/
theorem no_relay_no_bytes (c : Cfg) (ops : List Op) (t n : Nat)
    (h : ∀ oe, ((after c ops).tuns.getD t default).st ≠ .open false false oe) :
    let a := (after c ops).cells
    let b := (after c (ops ++ [.up t n])).cells
    b.up1 = a.up1 ∧ b.up2 = a.up2 ∧ b.up3 = a.up3 ∧ b.dn1 = a.dn1 ∧ b.dn2 = a.dn2 ∧ b.dn3 = a.dn3 := by
  rw [after_snoc]
  dsimp only [step]
  split
  · next oe h' => exact absurd h' (h oe)
  · exact ⟨rfl, rfl, rfl, rfl, rfl, rfl⟩

/-- **an HTTP/2 or HTTP/3 tunnel survives the origin's half-close and is over once both directions
have ended**: the socket guard is held until then and released exactly once -/
theorem half_closed_tunnel_released_when_both_ended (c : Cfg) (ops : List Op) (t : Nat)
    (h : ((after c ops).tuns.getD t default).st = .open false false false)
    (hp : protoOf (after c ops) ((after c ops).tuns.getD t default).sess ≠ .h1)
    (ha : aliveS (after c ops) ((after c ops).tuns.getD t default).sess = true)
    (ht : t < (after c ops).tuns.length) :
    (after c (ops ++ [.tunClose t 's'])).cells.tcp = (after c ops).cells.tcp ∧
    (after c (ops ++ [.tunClose t 's', .tunClose t 'g'])).cells.tcp = (after c ops).cells.tcp - 1 ∧
    (after c (ops ++ [.tunClose t 'g', .tunClose t 's'])).cells.tcp = (after c ops).cells.tcp - 1 := by
  simp only [after_append, run, List.foldl]
  generalize after c ops = s at *
  have g (st) := setTun_getD_self ht st
  have e1 : step c s (.tunClose t 's') = setTun s t (.open false false true) := step_originClose c s t h hp
  have e2 : step c s (.tunClose t 'g') = setTun s t (.open true false false) := step_clientEnd c s t h hp ha
  rw [e1, e2]
  refine ⟨rfl, ?_, ?_⟩
  · rw [step_clientEnd c _ t (oe := true) (by rw [g]) (by rw [g]; exact hp) (by rw [g]; exact ha)]
    exact closeTun_tcp_of_open (by rw [g])
  · rw [step_originClose c _ t (ce := true) (by rw [g]) (by rw [g]; exact hp)]
    exact closeTun_tcp_of_open (by rw [g])

/-- **an ICMP datagram counts only when it was relayed**: an answered echo adds its on-the-wire
length to both directions of the session's protocol, a dropped one changes no cell at all -/
theorem icmp_counts_only_relayed (c : Cfg) (ops : List Op) (t n : Nat)
    (h : ((after c ops).tuns.getD t default).st = .imux) :
    let s := after c ops
    let p := protoOf s (s.tuns.getD t default).sess
    (after c (ops ++ [.icmpEcho t true n])).cells = (s.cells.addUp p (8 + n)).addDn p (8 + n) ∧
    (after c (ops ++ [.icmpEcho t false n])).cells = s.cells := by
  rw [after_snoc, after_snoc]
  dsimp only [step]
  rw [h]
  exact ⟨rfl, rfl⟩

/-- UDP: a multiplexer step adds to the session's protocol exactly the payload bytes the
multiplexer model (`TT.UdpFlows`, C07) reports as sent / delivered -/
theorem udp_bytes_follow_multiplexer (c : Cfg) (ops : List Op) (t : Nat) (u : UdpFlows.St) (m : UdpFlows.Meta) (n : Nat)
    (h : ((after c ops).tuns.getD t default).st = .mux u) :
    let s := after c ops
    let p := protoOf s (s.tuns.getD t default).sess
    let u' := (UdpFlows.step c.udp u (.dg m n)).1
    (after c (ops ++ [.udpUp t m n])).cells =
      ((s.cells.udpDelta u u').addUp p (u'.up - u.up)).addDn p (u'.down - u.down) := by
  rw [after_snoc]
  dsimp only [step]
  rw [h]
  rfl

/-! ## Export: the documented series -/

/-- METRICS.md (re-read on every run) documents exactly the five series the cells stand for,
with these types and label names -/
theorem documented_series :
    TT.Gen.docFamilies.map (fun f => (f.1, f.2.1, f.2.2.map (·.1))) =
      [("client_sessions", "gauge", ["protocol_type"]),
       ("inbound_traffic_bytes", "counter", ["protocol_type"]),
       ("outbound_traffic_bytes", "counter", ["protocol_type"]),
       ("outbound_tcp_sockets", "gauge", []),
       ("outbound_udp_sockets", "gauge", [])] :=
  rfl

theorem documented_paths : TT.Gen.docPaths = ["/metrics", "/health-check"] :=
  rfl

/-! ## Non-vacuity -/

def exCfg : Cfg := { establish := 5000, tcpIdle := 60000,
                     udp := { timeout := 8000, kinds := [.live, .live, .dns, .dead, .unconn] } }

example :
    let ops := [Op.sessOpen .h2, .sessOpen .h1, .tunOpen 0 .origin, .tunOpen 0 .hang, .tunOpen 0 .udp,
                .tunOpen 1 .origin, .up 0 100, .down 0 7, .up 3 9, .udpUp 2 ⟨0, 0⟩ 10, .udpDown 2 ⟨0, 0⟩ 20,
                .tunOpen 0 .dead, .adv 5000, .tunClose 3 'g', .sessClose 0]
    (after exCfg (ops.take 12)).cells = { s1 := 1, s2 := 1, tcp := 3, udp := 1, up1 := 9, up2 := 110, dn1 := 0, dn2 := 27 }
    ∧ (after exCfg (ops.take 13)).cells.tcp = 2
    ∧ (after exCfg ops).cells = { s1 := 0, s2 := 0, tcp := 2, udp := 0, up1 := 9, up2 := 110, dn1 := 0, dn2 := 27 }
    ∧ (after exCfg (ops ++ [.adv 120000])).cells.tcp = 0
    ∧ (after exCfg [.sessOpen .h2, .tunOpen 0 .origin, .tunClose 0 's', .up 0 5]).cells
        = { s1 := 0, s2 := 1, tcp := 1, udp := 0, up1 := 0, up2 := 5, dn1 := 0, dn2 := 0 }
    ∧ (after exCfg [.sessOpen .h2, .tunOpen 0 .origin, .tunClose 0 's', .up 0 5, .tunClose 0 'g']).cells.tcp = 0
    -- HTTP/3 sessions: multiplexed like HTTP/2, counted in their own cells
    ∧ (after exCfg [.sessOpen .h3, .sessOpen .h3, .tunOpen 0 .origin, .tunOpen 0 .origin, .tunOpen 1 .origin, .up 0 40, .down 2 7,
                    .tunClose 0 'g', .down 0 5, .tunClose 0 's', .sessClose 1]).cells
        = { s1 := 0, s2 := 0, s3 := 1, tcp := 1, udp := 0, up3 := 40, dn3 := 12 } := by
  decide

end TT.Metrics
