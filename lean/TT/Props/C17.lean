import TT.Model.Fwd
import TT.Lemmas.Fwd
import TT.Lemmas.FwdHeaders
/-!
# C17  Plain-HTTP forwarding preserves requests and response bodies byte for byte

`Sink.write` / `offer` model `ForwardedStreamSink` under `SimplexPipe::exchange`; the client-side
sink accepts a scripted number of bytes per call. The first theorem is the quantifier of the
property (every segmentation of the origin's byte stream x every acceptance pattern of the client
sink); the round-trip theorems say what the single-segment, unthrottled run - hence every run -
delivers for each kind of response.

From `TT/Lemmas/Fwd.lean` the statements take `runSink ver method quotas segs` (the sink after the origin's segments
`segs`, with acceptance script `quotas`), `ClientView` and `Sink.clientView` (what the client observes: interim
responses, response head, body bytes, where the first end of stream fell, whether it got a 502 instead) and `FinalHead`
(a well-formed final response head: exactly one head, not 1xx, which `convert_response` accepts).
-/
namespace TT.Fwd

/-! ## every segmentation, every back-pressure pattern -/

/-- **the client observes the same thing however the origin's byte stream is cut into segments and
however little the client-side sink accepts per write**: the run over `segs` with acceptance
script `quotas` shows the client exactly what the run over the whole stream in one segment with an
unthrottled sink shows -/
theorem segmentation_and_backpressure_independent (ver : Ver) (method : Bytes) (quotas : List Nat)
    (segs : List Bytes) :
    (runSink ver method quotas segs).clientView = (runSink ver method [] [segs.flatten]).clientView := by
  rw [runSink_view, runSink_view, List.flatten_singleton]

/-- ... also when the origin then closes -/
theorem independent_after_origin_close (ver : Ver) (method : Bytes) (quotas : List Nat) (segs : List Bytes) :
    (runSink ver method quotas segs).eof.clientView = (runSink ver method [] [segs.flatten]).eof.clientView := by
  rw [runSink_eof_view, runSink_eof_view, List.flatten_singleton]

/-- bytes are delivered in stream order and never invented: what the client has after more
segments extends what it had -/
theorem delivery_monotone (ver : Ver) (method : Bytes) (quotas : List Nat) (segs more : List Bytes) :
    (runSink ver method quotas segs).client.body <+: (runSink ver method quotas (segs ++ more)).client.body := by
  have := feed_body _ (runSink_inv ver method quotas segs) more
  simpa only [runSink, feed, List.foldl_append] using this

/-! ## what is delivered, per kind of response (single segment, unthrottled: by the theorem above, every run) -/

/-- **chunked framing is removed exactly** (HTTP/2 and HTTP/3 clients): for any chunks with any
sizes and any extensions, the client receives the payloads concatenated, then end of stream -/
theorem chunked_body_delivered_exactly (ver : Ver) (method hb : Bytes) (status : Nat) (kept : List (Bytes × Bytes))
    (chunks : List (Bytes × Bytes))
    (hh : FinalHead ver method hb status kept (some .chunked))
    (hne : ∀ c ∈ chunks, c.2 ≠ [] ∧ c.2.length < 16 ^ 16 ∧ 13 ∉ c.1) :
    (runSink ver method [] [hb ++ encodeChunked chunks]).clientView =
      { interims := [], head := some (status, false, kept), body := (chunks.map (·.2)).flatten,
        firstEof := some ((chunks.map (·.2)).flatten.length), bad := false } := by
  rw [runSink_view, List.flatten_singleton, D_finalHead hh, phaseOf, D_chunked hne]
  simp [Client.view, cEof]

/-- **a Content-Length body is delivered exactly and ended when complete** -/
theorem content_length_body_delivered_exactly (ver : Ver) (method hb : Bytes) (status n : Nat)
    (kept : List (Bytes × Bytes)) (body : Bytes)
    (hh : FinalHead ver method hb status kept (some (.determined n))) (hn : 0 < n) (hb' : body.length ≤ n) :
    (runSink ver method [] [hb ++ body]).clientView =
      { interims := [], head := some (status, false, kept), body := body,
        firstEof := if body.length = n then some n else none, bad := false } := by
  rw [runSink_view, List.flatten_singleton, D_finalHead hh, phaseOf, D_nonEncodedSome hn (by omega)]
  have hn0 : n ≠ 0 := by omega
  by_cases hbn : body.length = n
  · simp [Client.view, cEof, hbn, hn0]
  · simp [Client.view, hbn, hn0]

/-- a close-delimited body is passed through as it comes and ended when the origin closes (this is
also what an HTTP/1.x client gets for a chunked response: the framing is its own to remove) -/
theorem close_delimited_body_delivered_exactly (ver : Ver) (method hb : Bytes) (status : Nat)
    (kept : List (Bytes × Bytes)) (body : Bytes)
    (hh : FinalHead ver method hb status kept none) :
    (runSink ver method [] [hb ++ body]).clientView =
      { interims := [], head := some (status, false, kept), body := body, firstEof := none, bad := false } ∧
    (runSink ver method [] [hb ++ body]).eof.clientView =
      { interims := [], head := some (status, false, kept), body := body, firstEof := some body.length, bad := false } := by
  rw [runSink_view, runSink_eof_view, List.flatten_singleton, D_finalHead hh, phaseOf, D_nonEncodedNone]
  simp [Client.view, Core.clientAtEof, cEof]

/-- bodiless responses (HEAD, 204, 304, Content-Length: 0) end with the head -/
theorem bodiless_response_ends_with_head (ver : Ver) (method hb : Bytes) (status : Nat) (kept : List (Bytes × Bytes))
    (hh : FinalHead ver method hb status kept (some (.determined 0))) :
    (runSink ver method [] [hb]).clientView =
      { interims := [], head := some (status, true, kept), body := [], firstEof := none, bad := false } := by
  have h := D_finalHead hh []
  rw [List.append_nil, D_nil] at h
  rw [runSink_view, List.flatten_singleton, h]
  simp [Client.view]

/-- HEAD requests and 204 / 304 responses are bodiless whatever framing headers they carry -/
theorem head_204_304_are_bodiless (ver : Ver) (method : Bytes) (h : Head) (kept : List (Bytes × Bytes)) (bl : Option BodyLen)
    (hc : convertResponse ver method h = some (kept, bl))
    (hb : method = str "HEAD" ∨ h.status = 204 ∨ h.status = 304) :
    bl = some (.determined 0) := by
  rw [(convertResponse_eq_some hc).2]
  rcases hb with rfl | h204 | h304
  · simp [isHead]
  · simp [h204]
  · simp [h304]

/-- **interim 1xx responses never end or corrupt the exchange**: a 1xx head in front of the rest of
the stream changes nothing of what follows; an HTTP/1.x client is sent it, an HTTP/2 or HTTP/3
client is not -/
theorem interim_response_is_transparent (ver : Ver) (method ib rest : Bytes) (h : Head) (quotas : List Nat)
    (hi : headEnd ib = some ib.length) (hp : parseHeadBytes ib = some h)
    (hs : 100 ≤ h.status ∧ h.status < 200)
    (hc : (convertResponse ver method h).isSome) :
    let a := (runSink ver method quotas [ib ++ rest]).clientView
    let b := (runSink ver method quotas [rest]).clientView
    a = { b with interims := (if ver.isH1 then [h.status] else []) ++ b.interims } := by
  intro a b
  have hx : (⟨.waitingResponse [], if ver.isH1 then { ({} : Client) with interims := [] ++ [h.status] } else {}⟩ : Core) =
      addI (if ver.isH1 then [h.status] else []) Core.init := by
    cases ver.isH1 <;> rfl
  simp only [a, b, runSink_view, List.flatten_singleton]
  rw [Core.init, D_head hi (afterHead_interim hp hc hs), hx, D_addI (c := Core.init) CI_waiting]
  rfl

/-! ## headers -/

def hopByHop : List Bytes := [str "connection", str "proxy-connection", str "keep-alive", str "upgrade"]

/-- **hop-by-hop headers are never forwarded** (and Transfer-Encoding not to HTTP/2 / HTTP/3 clients) -/
theorem hop_by_hop_headers_removed (ver : Ver) (method : Bytes) (h : Head) (kept : List (Bytes × Bytes)) (bl : Option BodyLen)
    (hc : convertResponse ver method h = some (kept, bl)) :
    ∀ x ∈ kept, x.1 ∉ hopByHop ∧ (ver.isH1 = false → x.1 ≠ str "transfer-encoding") := by
  intro x hx
  have hk := (convertResponse_kept_spec hc).2 x hx
  have hd := hk.notDropped
  rw [mem_connInit_drop, not_or] at hd
  exact ⟨by simpa [hopByHop, hk.notConnection] using hd.1, hk.notTE⟩

/-- **fields nominated by a `Connection` header are hop-by-hop wherever they stand in the head**: no forwarded header
has a name that a Connection header of the response lists (before it or after it) -/
theorem connection_nominated_headers_removed (ver : Ver) (method : Bytes) (h : Head) (kept : List (Bytes × Bytes))
    (bl : Option BodyLen) (hc : convertResponse ver method h = some (kept, bl)) :
    ∀ x ∈ kept, ∀ c ∈ h.headers, c.1 = str "connection" → x.1 ∉ connectionTokens c.2 := by
  intro x hx c hcm hcn ht
  exact ((convertResponse_kept_spec hc).2 x hx).notDropped (mem_connInit_drop.mpr (.inr ⟨c, hcm, hcn, ht⟩))

/-- (a head whose Connection header follows the field it nominates, in another spelling) -/
example : convertResponse .h11 (str "GET") ⟨200, [(str "x-thing", str "v"), (str "connection", str "X-Thing"), (str "server", str "o")]⟩
    = some ([(str "server", str "o")], none) := by decide +kernel

/-- nothing is invented or reordered: the forwarded headers are a sublist of the origin's -/
theorem forwarded_headers_are_origin_headers (ver : Ver) (method : Bytes) (h : Head) (kept : List (Bytes × Bytes))
    (bl : Option BodyLen) (hc : convertResponse ver method h = some (kept, bl)) :
    kept.Sublist h.headers :=
  (convertResponse_kept_spec hc).1

/-- **every end-to-end header is forwarded**: a header that is not hop-by-hop, not a framing header
and not named by a Connection header of the response reaches the client -/
theorem end_to_end_headers_kept (ver : Ver) (method : Bytes) (h : Head) (kept : List (Bytes × Bytes)) (bl : Option BodyLen)
    (hc : convertResponse ver method h = some (kept, bl)) (x : Bytes × Bytes) (hx : x ∈ h.headers)
    (h1 : x.1 ∉ hopByHop) (h2 : x.1 ≠ str "transfer-encoding") (h3 : x.1 ≠ str "content-length")
    (h4 : ∀ c ∈ h.headers, c.1 = str "connection" → x.1 ∉ connectionTokens c.2) :
    x ∈ kept := by
  simp only [hopByHop, List.mem_cons, List.not_mem_nil, or_false, not_or] at h1
  rw [(convertResponse_eq_some hc).1]
  refine convFold_keeps h1.1 h2 h3 ?_ h4 (Or.inr hx)
  rw [mem_connInit_drop]
  rintro (hb | ⟨c, hcm, hcn, ht⟩)
  · simp [h1.2.1, h1.2.2.1, h1.2.2.2] at hb
  · exact h4 c hcm hcn ht

/-- **The header array stops growing**: for the constants of the code the doubling ends at a size that admits the
documented maximum -/
theorem response_header_capacity :
    responseHeaderCapacity = 128 ∧ TT.Gen.max_response_headers_num ≤ responseHeaderCapacity := by
  decide

/-- ... and a head that parses has no more header lines than that -/
theorem parsed_head_within_capacity (b : Bytes) (h : Head) (hp : parseHeadBytes b = some h) :
    h.headers.length ≤ responseHeaderCapacity := by
  unfold parseHeadBytes at hp
  split at hp
  · simp at hp
  · simp only [Option.bind_eq_bind, Option.bind_eq_some_iff] at hp
    obtain ⟨st, _, hs, _, hp⟩ := hp
    split at hp
    · simp at hp
    · simp only [Option.some.injEq] at hp
      subst hp
      simp only
      omega

/-! ## the request -/

/-- **the request line keeps method and path, the version is HTTP/1.x** -/
theorem request_line_preserved (r : Request) (bytes : Bytes) (bl : BodyLen)
    (h : serializeRequest r = .ok bytes bl) :
    (r.method ++ [32] ++ (if r.method = str "OPTIONS" then str "*" else r.target) ++ str " HTTP/" ++
      versionDigits r.ver ++ [13, 10]) <+: bytes ∧
    [13, 10, 13, 10] <:+ bytes := by
  constructor
  · obtain ⟨_, rfl, _⟩ := serializeRequest_bytes h
    exact ((List.prefix_append _ _).trans (List.prefix_append _ _)).trans (List.prefix_append _ _)
  · exact serializeRequest_crlf h

/-- the header block: proxy hop-by-hop headers are gone, the Host header is the URI's authority
(exactly one), every other header is there in order, unchanged -/
def expectedHeaderLines (r : Request) : List Bytes :=
  let others := r.headers.filter fun h => h.1 != str "proxy-authorization" && h.1 != str "proxy-connection"
  let lines := others.map fun h =>
    if h.1 == str "host" then str "host: " ++ r.authority ++ [13, 10] else h.1 ++ str ": " ++ h.2 ++ [13, 10]
  if others.any (·.1 == str "host") then lines else lines ++ [str "host: " ++ r.authority ++ [13, 10]]

/-- **the request headers are preserved**: what is sent is the request line, the header block
`expectedHeaderLines` and the empty line -/
theorem request_headers_preserved (r : Request) (bytes : Bytes) (bl : BodyLen)
    (h : serializeRequest r = .ok bytes bl) :
    bytes = r.method ++ [32] ++ (if r.method = str "OPTIONS" then str "*" else r.target) ++ str " HTTP/" ++
      versionDigits r.ver ++ [13, 10] ++ (expectedHeaderLines r).flatten ++ [13, 10] := by
  obtain ⟨hr, hb, _⟩ := serializeRequest_bytes h
  obtain ⟨o1, o2⟩ := serFold_out r.authority r.headers {} hr
  have e1 : keepReq = fun h => h.1 != str "proxy-authorization" && h.1 != str "proxy-connection" := rfl
  have e2 : reqLine r.authority = fun h =>
      if h.1 == str "host" then str "host: " ++ r.authority ++ [13, 10] else h.1 ++ str ": " ++ h.2 ++ [13, 10] := rfl
  rw [hb, o1, o2, e1, e2]
  simp only [expectedHeaderLines]
  -- the fold starts with `hostInserted = false`: it ends with the flag set iff a kept header is `host`
  by_cases hany : ((r.headers.filter fun h => h.1 != str "proxy-authorization" && h.1 != str "proxy-connection").any
      (·.1 == str "host")) = true
  · simp [hany]
  · simp [hany]

/-- **a body announced by Content-Length is forwarded exactly up to that length** (whatever the
chunking of the client's body stream) -/
theorem request_body_content_length (n : Nat) (chunks : List Bytes) :
    forwardBody (.determined n) 0 chunks = chunks.flatten.take n := by
  rw [forwardBody_determined]; rfl

/-- a valid Content-Length (and no chunked Transfer-Encoding) fixes the forwarded body length -/
theorem request_content_length_respected (r : Request) (bytes : Bytes) (bl : BodyLen) (v : Bytes) (k : Nat)
    (h : serializeRequest r = .ok bytes bl) (hm : r.method ≠ str "HEAD")
    (hcl : (str "content-length", v) ∈ r.headers) (hk : parseDec v = some k)
    (hte : ∀ x ∈ r.headers, x.1 = str "transfer-encoding" → x.2 ≠ str "chunked") :
    bl = .determined k := by
  obtain ⟨hr, _, hbl⟩ := serializeRequest_bytes h
  have hb := (serFold_bodyLen r.authority r.headers {} hr hte (by simp)).2 v k hcl hk
  have hm' : isHead r.method = false := by simpa [isHead] using hm
  rw [hbl, hm', hb]
  rfl

/-- KNOWN FINDING (recorded in known_findings.json, replayed on the implementation by the suite):
an HTTP/2 or HTTP/3 request without Content-Length is forwarded with its body raw and *no*
framing header, so the origin cannot delimit it. The witness below is that request. -/
example :
    let r : Request := { ver := .h2, method := str "POST", target := str "/u", authority := str "o.test",
                         headers := [(str "accept", str "*/*")] }
    forwardRequest r [str "abc", str "de"] =
      some (str "POST /u HTTP/1.1\r\naccept: */*\r\nhost: o.test\r\n\r\nabcde") := by
  decide +kernel

/-! ## Non-vacuity -/

example :
    let hb := str "HTTP/1.1 200 OK\r\nServer: o\r\nConnection: close\r\nTransfer-Encoding: chunked\r\n\r\n"
    FinalHead .h2 (str "GET") hb 200 [(str "server", str "o")] (some .chunked) := by
  intro hb
  let h : Head := ⟨200, [(str "server", str "o"), (str "connection", str "close"), (str "transfer-encoding", str "chunked")]⟩
  -- one evaluation for the three computations: the kernel then decodes the string literal once
  have e : headEnd hb = some hb.length ∧ parseHeadBytes hb = some h ∧
      convertResponse .h2 (str "GET") h = some ([(str "server", str "o")], some .chunked) := by decide +kernel
  exact ⟨e.1, ⟨h, e.2.1, rfl, e.2.2⟩, by decide⟩

example :
    (runSink .h2 (str "GET") [3, 0, 1]
      [str "HTTP/1.1 100 Continue\r\n\r\nHTTP/1.1 200 OK\r\nTransfer-Enc", str "oding: chunked\r\n\r\n4;x=1\r\nab",
       str "cd\r", str "\n1\r\ne\r\n0\r\n\r\n"]).clientView =
      { interims := [], head := some (200, false, []), body := str "abcde", firstEof := some 5, bad := false } := by
  decide +kernel

/-! ## Flow-control credit of the request body -/

/-- **the client is credited exactly the body bytes the origin accepted, under every acceptance
schedule**: after any sequence of acknowledgements the credit handed to the request-body source is
what was acknowledged beyond the `head` bytes of the serialised request head - never more (no credit
for bytes the endpoint made up, none ahead of the body), never less (the client's window is not
starved). Every prefix of a schedule is a schedule, so this holds at every moment of the exchange. -/
theorem request_credit_exact (head : Nat) (acks : List Nat) :
    (creditAfter head acks).released = acks.sum - head
    ∧ (creditAfter head acks).skip = head - acks.sum := by
  simp [creditAfter, credit_fold]

/-- in particular the head taken in pieces is not charged: as long as no more than the head was
acknowledged, nothing was credited -/
theorem head_in_pieces_not_credited (head : Nat) (acks : List Nat) (h : acks.sum ≤ head) :
    (creditAfter head acks).released = 0 := by
  rw [(request_credit_exact head acks).1, Nat.sub_eq_zero_of_le h]

/-- the credit depends only on how much was acknowledged, not on how the acknowledgements were cut:
two schedules with the same total leave the same credit, and the credit never shrinks as more is
acknowledged -/
theorem request_credit_schedule_independent (head : Nat) (acks acks' more : List Nat) (h : acks.sum = acks'.sum) :
    (creditAfter head acks).released = (creditAfter head acks').released ∧
    (creditAfter head acks).released ≤ (creditAfter head (acks ++ more)).released := by
  rw [(request_credit_exact head acks).1, (request_credit_exact head acks').1,
    (request_credit_exact head (acks ++ more)).1, List.sum_append, h]
  exact ⟨rfl, Nat.sub_le_sub_right (Nat.le_add_right _ _) _⟩

example : (creditAfter 116 [10, 106, 32]).released = 32 ∧ (creditAfter 116 [0, 200]).released = 84 := by decide +kernel
end TT.Fwd
