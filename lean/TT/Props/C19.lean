import TT.Model.Shutdown
import TT.Lemmas.Shutdown
/-!
# C19  Graceful shutdown reaches every participant and completes when all finish
-/
namespace TT.Shutdown

def stateAfter (ops : List Op) : St := (run {} ops).1

/-- **Every participant registered before the submission observes it**: whatever happens in
between (other registrations, other participants finishing, repeated submits causing lag, polls
of anybody else's handler, completion polls), the participant's next poll of `wait()` is `Ok` -/
theorem registered_before_submit_observes (pre mid : List Op) (i : Nat)
    (hi : i = (stateAfter pre).parts.length)
    (hmid : ∀ op ∈ mid, op ≠ .waitPoll i ∧ op ≠ .finish i) :
    let s := stateAfter (pre ++ [.register] ++ [.submit] ++ mid)
    (step s (.waitPoll i)).2 = .ready := by
  intro s
  simp only [s, stateAfter, run_append_fst, run_singleton_fst]
  exact ready_after_submit (hi ▸ at_register _ rfl) mid hmid

/-- ... also when the participant was already waiting (polled `pending`) before the submission -/
theorem waiting_participant_is_woken (pre mid1 mid2 : List Op) (i : Nat)
    (hi : i = (stateAfter pre).parts.length)
    (h1 : ∀ op ∈ mid1, op ≠ .finish i ∧ op ≠ .submit) (h2 : ∀ op ∈ mid2, op ≠ .waitPoll i ∧ op ≠ .finish i) :
    let s := stateAfter (pre ++ [.register] ++ mid1 ++ [.waitPoll i] ++ [.submit] ++ mid2)
    (step s (.waitPoll i)).2 = .ready := by
  intro s
  simp only [s, stateAfter, run_append_fst, run_singleton_fst]
  refine ready_after_submit ?_ mid2 h2
  refine At.step ?_ (.waitPoll i) fun p hp => (pstep_of_ne_finish (op := .waitPoll i) nofun p).1 ▸ hp
  refine At.run ?_ mid1 fun op hop p hp => (pstep_of_ne_finish (h1 op hop).1 p).1 ▸ hp
  exact hi ▸ at_register _ rfl

/-- without a submission nobody is told to shut down -/
theorem no_submit_no_notification (ops : List Op) (h : Op.submit ∉ ops) (i : Nat) :
    (step (stateAfter ops) (.waitPoll i)).2 ≠ .ready := by
  rw [Ne, step_waitPoll_out]
  rintro ⟨p, hp, -, hu⟩
  have hinv : All (fun p => p.unseen = false) (stateAfter ops) :=
    All.run (fun _ h => nomatch h) ops (fun op hop _ _ => pstep_unseen_false fun e => h (e ▸ hop)) fun _ _ => rfl
  rw [hinv p (List.mem_iff_getElem?.2 ⟨i, hp⟩)] at hu
  cases hu

/-- **Completion returns exactly when the last registered participant has finished**: a
completion poll answers `done` iff no guard is outstanding - never earlier, and from then on
always (no hang) -/
theorem completion_iff_all_finished (ops : List Op) :
    (step (stateAfter ops) .completionPoll).2 = .done ↔ ∀ p ∈ (stateAfter ops).parts, p.guard = false :=
  step_completionPoll_out _

/-- guards are held exactly by the participants that registered before completion started and have
not finished -/
theorem guard_iff_registered_early_and_alive (ops : List Op) (p : Part) (hp : p ∈ (stateAfter ops).parts)
    (hg : p.guard = true) : p.alive = true := by
  have hinv : All (fun p => p.guard = true → p.alive = true) (stateAfter ops) :=
    All.run (fun _ h => nomatch h) ops (fun _ _ _ _ => pstep_guard_alive) fun _ _ _ => rfl
  exact hinv p hp hg

/-- once all have finished, completion stays enabled whatever else happens except new
registrations (which get no guard after completion started) -/
theorem completion_stable (ops more : List Op) (h : (step (stateAfter ops) .completionPoll).2 = .done) :
    (step (stateAfter (ops ++ [.completionPoll] ++ more)) .completionPoll).2 = .done := by
  rw [step_completionPoll_out] at h ⊢
  simp only [stateAfter, run_append_fst, run_singleton_fst, step_completionPoll]
  exact All.run (s := { stateAfter ops with completing := true }) h more (fun _ _ _ _ => pstep_guard_false)
    fun _ hg => hg rfl

/-- a registration after completion started gets no guard (and cannot delay completion) -/
theorem late_registration_gets_no_guard (ops : List Op) (h : Op.completionPoll ∈ ops) :
    ∃ idx, (step (stateAfter ops) .register).2 = .registered idx false := by
  refine ⟨(stateAfter ops).parts.length, ?_⟩
  have hc : (stateAfter ops).completing = true := completing_iff.2 h
  simp [step, hc]

/-- **Completion waits for everybody who registered in time**: a participant registered before
`completion()` was first polled holds a guard, and until it finishes, every poll of `completion()` -
whatever else happens (submits, other participants finishing, late registrations) - is pending -/
theorem completion_waits_for_unfinished (pre mid : List Op) (i : Nat)
    (hi : i = (stateAfter pre).parts.length) (hpre : Op.completionPoll ∉ pre)
    (hmid : ∀ op ∈ mid, op ≠ .finish i) :
    (step (stateAfter (pre ++ [.register] ++ mid)) .completionPoll).2 = .pending := by
  have hc : (stateAfter pre).completing = false := Bool.eq_false_iff.2 fun h => hpre (completing_iff.1 h)
  have hg : At i (fun p => p.guard = true) (stateAfter (pre ++ [.register] ++ mid)) := by
    simp only [stateAfter, run_append_fst, run_singleton_fst]
    refine At.run ?_ mid fun op hop p hp => (pstep_of_ne_finish (hmid op hop) p).2 ▸ hp
    exact hi ▸ at_register _ (by rw [hc]; rfl)
  obtain ⟨p, hp, hgp⟩ := hg
  exact step_completionPoll_pending (List.mem_iff_getElem?.2 ⟨i, hp⟩) hgp

example : (run {} [.register, .register, .finish 0, .submit, .completionPoll, .register, .completionPoll, .finish 1,
    .completionPoll]).2 = [.registered 0 true, .registered 1 true, .none_, .none_, .pending, .registered 2 false, .pending,
    .none_, .done] := by decide

example : (run {} [.register, .register, .submit, .waitPoll 0, .finish 0, .completionPoll, .waitPoll 1, .finish 1,
    .completionPoll]).2 = [.registered 0 true, .registered 1 true, .none_, .ready, .none_, .pending, .ready, .none_, .done] := by
  decide

end TT.Shutdown
