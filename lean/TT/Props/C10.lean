import TT.Model.Dispatch
import TT.Lemmas.Dispatch
/-!
# C10  Every tunnel request gets exactly one, correctly coded, final response

`statusOf` / `warnOf` / the reserved authorities are the generated definitions of
`TT/Gen/Dispatch.lean`: the theorems are re-checked against the match arms of
`http_downstream.rs` on every run.
-/
namespace TT.Dispatch
open TT TT.Gen

/-- **Exactly one final response** for every CONNECT request, whatever the credentials, the
authority and the outcome of the outbound attempt -/
theorem exactly_one_final (r : Req) (hm : r.method = .connect) (policy : Policy) (authn : Option Authn) (env : Env) :
    ((handle r policy authn env).filter isFinal).length = 1 := by
  cases handled r policy authn env <;> simp [*, List.filter_cons]

/-- any other method gets at most one response from the endpoint itself (the successful case is
answered by the origin, C17) -/
theorem at_most_one_final (r : Req) (policy : Policy) (authn : Option Authn) (env : Env) :
    ((handle r policy authn env).filter isFinal).length ≤ 1 := by
  cases handled r policy authn env with
  | connected _ _ _ _ _ h => rw [h]; split <;> simp [List.filter_cons]
  | _ => simp [*, List.filter_cons]

/-- **Documented codes**: the response is 200, 407 with the Basic challenge, or 502 carrying
300 / 301 / 302, or 310 / 311 together with the offending host name (or no X-Warning for a
wrong method on a reserved authority) -/
theorem codes_documented (r : Req) (policy : Policy) (authn : Option Authn) (env : Env) (resp : Response)
    (h : Event.response resp ∈ handle r policy authn env) :
    resp = ⟨200, []⟩ ∨ resp = ⟨407, [.challenge]⟩ ∨ resp = ⟨502, []⟩ ∨ resp = ⟨502, [.warn 300]⟩ ∨
    resp = ⟨502, [.warn 301]⟩ ∨ resp = ⟨502, [.warn 302]⟩ ∨ resp = ⟨502, [.dnshost, .warn 310]⟩ ∨
    resp = ⟨502, [.dnshost, .warn 311]⟩ := by
  -- which answers there are is the model's part; the code of each `ConnErr` is read off the generated tables
  rcases response_of_handle h with h | rfl | ⟨e, h⟩
  · cases h; exact .inl rfl
  · exact .inr (.inr (.inl rfl))
  · cases e <;> cases h <;> decide

/-- the mapping of each outcome of the outbound attempt -/
theorem outcome_codes :
    failWith .hostUnreachable = .response ⟨502, [.warn 301]⟩ ∧
    failWith .timeout = .response ⟨502, [.warn 302]⟩ ∧
    failWith .dnsNonroutable = .response ⟨502, [.dnshost, .warn 310]⟩ ∧
    failWith .dnsLoopback = .response ⟨502, [.dnshost, .warn 311]⟩ ∧
    failWith .io = .response ⟨502, [.warn 300]⟩ ∧
    failWith .other = .response ⟨502, [.warn 300]⟩ ∧
    failWith .authentication = .response ⟨407, [.challenge]⟩ := by
  simp [failWith, statusOf, warnOf]

/-- **With a SOCKS5 upstream the codes are the same**: "network unreachable" and "host unreachable" from the
upstream are both reported as 502 / 301, "TTL expired" as 502 / 302, a refused connection and every other
failure as 502 / 300 - and only the success reply gives 200 -/
theorem socks_upstream_codes (a : SocksAnswer) :
    (match socksOutcome a with
     | .ok => ok200
     | .err e => failWith e
     | .delayedOk _ => ok200) =
    (match a with
     | .reply 0 => .response ⟨200, []⟩
     | .reply 3 => .response ⟨502, [.warn 301]⟩
     | .reply 4 => .response ⟨502, [.warn 301]⟩
     | .reply 6 => .response ⟨502, [.warn 302]⟩
     | _ => .response ⟨502, [.warn 300]⟩) := by
  cases a with
  | closed | malformed => rfl
  | reply c =>
    match c with
    | 0 | 1 | 2 | 3 | 4 | 5 | 6 => rfl
    | n + 7 => rfl

/-- a passed CONNECT to an ordinary destination: 200 iff the connection attempt succeeded in time -/
theorem connect_result (r : Req) (hm : r.method = .connect) (policy : Policy) (authn : Option Authn) (env : Env)
    (fa : Option Source) (hg : gate (authInfo r.authHdr) policy authn = .pass fa) (hk : promote r = .tcp)
    (hd : r.authority.isSome = true ∧ (r.isLiteral = true ∨ r.port.isSome = true)) :
    handle r policy authn env =
      [.egress .tcpConnect,
       match env.connect with
       | .ok => ok200
       | .err e => failWith e
       | .delayedOk ms => if ms ≤ env.establishTimeoutMs then ok200 else failWith .timeout] := by
  have hd' : (r.authority.isSome && (r.isLiteral || Method.connect != .connect || r.port.isSome)) = true := by
    rcases hd.2 with h | h <;> simp [hd.1, h]
  simp only [handle, hg, hk, hm, hd']
  cases env.connect with
  | ok | err e => simp
  | delayedOk ms => by_cases h : ms ≤ env.establishTimeoutMs <;> simp [h]

/-- **Reserved authorities are never resolved or connected to**; another method on them is 502 -/
theorem reserved_never_resolved (r : Req) (a : String) (ha : r.authority = some a)
    (hr : a = health_check_authority ∨ a = udp_authority ∨ a = icmp_authority)
    (policy : Policy) (authn : Option Authn) (env : Env) :
    Event.egress .tcpConnect ∉ handle r policy authn env ∧
    (r.method ≠ .connect → ∀ fa, gate (authInfo r.authHdr) policy authn = .pass fa →
      handle r policy authn env = [.response ⟨502, []⟩]) := by
  have hp : promote r ≠ .tcp := by
    rcases promote_reserved r a ha hr with ⟨-, hp | ⟨i, hp⟩⟩ | ⟨-, hp⟩ <;> simp [hp]
  constructor
  · cases handled r policy authn env with
    | muxOpened fa icmp _ _ _ h => cases fa <;> cases icmp <;> simp [h, ok200]
    | noDestination _ _ hk | connected _ _ hk | connectFailed _ _ _ hk => exact absurd hk hp
    | _ => simp [*, failWith, ok200]
  · intro hm fa hg
    rcases promote_reserved r a ha hr with ⟨hc, -⟩ | ⟨-, hk⟩
    · exact absurd hc hm
    · simp [handle, hg, hk, bad_status_code]

/-- names that merely look like the reserved ones (other case, suffix, port) are ordinary hosts -/
theorem lookalikes_are_hosts (r : Req) (a : String) (ha : r.authority = some a)
    (h1 : a ≠ health_check_authority) (h2 : a ≠ udp_authority) (h3 : a ≠ icmp_authority) :
    promote r = .tcp := by
  simp [promote, ha, h1, h2, h3]

example : promote ⟨.connect, some "_CHECK", false, none, none⟩ = .tcp := by decide
example : promote ⟨.connect, some "_check:443", false, some 443, none⟩ = .tcp := by decide
example : promote ⟨.connect, some "_check", false, none, none⟩ = .health := by decide

/-- **A CONNECT without a port is refused** (502 / 300) without any connection attempt -/
theorem connect_without_port_refused (r : Req) (hm : r.method = .connect) (hl : r.isLiteral = false)
    (hp : r.port = none) (hk : promote r = .tcp) (policy : Policy) (authn : Option Authn) (env : Env)
    (fa : Option Source) (hg : gate (authInfo r.authHdr) policy authn = .pass fa) :
    handle r policy authn env = [.response ⟨502, [.warn 300]⟩] := by
  unfold handle
  rw [hg, hk]
  simp [hm, hl, hp, failWith, statusOf, warnOf]

/-- health check and multiplexers are accepted with 200 -/
theorem health_and_mux_accepted (r : Req) (policy : Policy) (authn : Option Authn) (env : Env)
    (fa : Option Source) (hg : gate (authInfo r.authHdr) policy authn = .pass fa) :
    (promote r = .health → handle r policy authn env = [ok200]) ∧
    (∀ icmp, promote r = .mux icmp → (fa.isSome = true ∧ env.datagramAuthFails = true) ∨ ok200 ∈ handle r policy authn env) := by
  refine ⟨fun hk => by simp [handle, hg, hk], fun icmp hk => ?_⟩
  by_cases hc : fa.isSome = true ∧ env.datagramAuthFails = true
  · exact .inl hc
  · right
    have : (fa.isSome && env.datagramAuthFails) = false := by simpa using hc
    simp [handle, hg, hk, this]

/-! ## OS errors of the outbound connect (direct forwarder) -/

/-- **no route is reported as unreachable, a timed-out connect as timed out, anything else as failed**: ENETUNREACH
(101) and EHOSTUNREACH (113) both give `502` with warning 301, ETIMEDOUT (110) warning 302, every other error
number warning 300 (the classification lists are re-read from `io_to_connection_error` on every run) -/
theorem os_error_codes :
    (∀ e ∈ [101, 113], failWith (connErrOfErrno e) = .response ⟨502, [.warn 301]⟩)
    ∧ failWith (connErrOfErrno 110) = .response ⟨502, [.warn 302]⟩
    ∧ (∀ e, e ∉ [101, 113, 110] → failWith (connErrOfErrno e) = .response ⟨502, [.warn 300]⟩) := by
  refine ⟨by decide, by decide, fun e he => ?_⟩
  simp only [List.mem_cons, List.not_mem_nil, or_false, not_or] at he
  simp [connErrOfErrno, unreachableErrnos, timedOutErrnos, he, failWith, statusOf, warnOf]

theorem failWith_ne_ok200 (e : Gen.ConnErr) : failWith e ≠ ok200 := by
  cases e <;> decide

/-- **A failed attempt is never reported as success**: for an ordinary destination, when the outbound
attempt fails (or completes only after the establishment timeout) no 200 is sent, whatever the
credentials and the form of the authority -/
theorem failed_connect_never_200 (r : Req) (hk : promote r = .tcp) (policy : Policy) (authn : Option Authn) (env : Env)
    (hf : (∃ e, env.connect = .err e) ∨ (∃ ms, env.connect = .delayedOk ms ∧ env.establishTimeoutMs < ms)) :
    ok200 ∉ handle r policy authn env := by
  have hne : ∀ e, ok200 ≠ failWith e := fun e h => failWith_ne_ok200 e h.symm
  cases handled r policy authn env with
  | connected _ _ _ _ hc =>
    -- this answer needs the attempt to have succeeded in time, and `hf` says it did not
    exfalso
    rcases hc with hc | ⟨ms', hc, hle⟩ <;> rcases hf with ⟨e, he⟩ | ⟨ms, hms, hlt⟩
    · cases hc.symm.trans he
    · cases hc.symm.trans hms
    · cases hc.symm.trans he
    · cases hc.symm.trans hms; omega
  | health _ _ hk' | badMethod _ _ hk' | muxRefused _ _ _ hk' | muxOpened _ _ _ hk' => simp [hk] at hk'
  | _ => simp [*, ok200_ne_egress]

/-- **At most one outbound connection attempt per request** -/
theorem at_most_one_connect_attempt (r : Req) (policy : Policy) (authn : Option Authn) (env : Env) :
    ((handle r policy authn env).filter (· == Event.egress .tcpConnect)).length ≤ 1 := by
  cases handled r policy authn env with
  | muxOpened fa icmp _ _ _ h => cases fa <;> cases icmp <;> simp [h, ok200]
  | connected _ _ _ _ _ h => rw [h]; split <;> simp [ok200]
  | _ => simp [*, failWith, ok200]

end TT.Dispatch
