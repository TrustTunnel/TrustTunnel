import TT.Model.Icmp
import TT.Lemmas.Icmp
/-!
# C11  ICMP echo tunnelling: faithful requests, valid checksums, matched replies

From `TT/Lemmas/Icmp.lean` the statements about the waiter table take `Op` (what happens to a table: an echo request sent
for a client, a message received that designates a request, a timer sweep), `Table.step` (the table after one such
operation) and `countSends` (the number of requests sent in a list of operations).
-/
namespace TT.Icmp
open TT TT.Bytes

def BytesWF (b : Bytes) : Prop := ∀ x ∈ b, x < 256

/-- the wrapping `u32` accumulation of the Rust loop never wraps on such packets, so the model's
unbounded sum is what the code computes -/
theorem sum32_exact (bs : Bytes) (hw : BytesWF bs) (hl : bs.length ≤ 131070) :
    sumWords32 bs 0 = sumWords bs := by
  have := sumWords_le hw
  rw [sumWords32_eq bs 0 (by decide), Nat.zero_add, Nat.mod_eq_of_lt (by omega)]

/-- **Checksum correctness for every payload**: the serialised echo (type 8 or 128, any
identifier / sequence number, any data of at most 65535 bytes - the data size field is a
`u16`) verifies: its one's-complement sum, checksum included, folds to 0xFFFF.  This includes
the sums that carry twice. -/
theorem checksum_verifies (e : Echo) (typeId : Nat) (ht : typeId < 256) (hid : e.id < 65536)
    (hseq : e.seq < 65536) (hd : BytesWF e.data) (hl : e.data.length ≤ 65535) :
    verifies (e.serialize typeId) = true := by
  have _ := hid; have _ := hseq  -- (`u16be` truncates, so the bounds are not needed)
  have hwf : BytesWF (e.serialize0 typeId) := by
    simp only [BytesWF, Echo.serialize0, List.forall_mem_cons, List.forall_mem_append]
    exact ⟨ht, by decide, by decide, by decide, ⟨u16be_lt _, u16be_lt _⟩, hd⟩
  have hlen : (e.serialize0 typeId).length ≤ 131070 := by
    simp only [Echo.serialize0, List.length_cons, List.length_append, u16be_length]; omega
  rw [verifies, Echo.serialize, checksum, sum32_exact _ hwf hlen, sumWords_field _ _ _ _ (by omega)]
  exact beq_iff_eq.mpr (fold16_add_compl _)

/-- a payload whose plain sum carries twice: a checksum that folds the carry only once gets it wrong -/
example : verifies (Echo.serialize ⟨0, 0xffff, 0xffff, [0xf7, 0xff, 0x00, 0x01]⟩ 8) = true := by decide +kernel

/-! ### 7.3 request records -/

/-- spec-side encoder of one PROTOCOL.md 7.3 record -/
def encodeRequest (r : Request) : Bytes :=
  u16be r.id ++ putFixedIp r.dest ++ u16be r.seq ++ [r.ttl] ++ u16be r.dataSize

/-- addresses that 7.3 can carry unambiguously: IPv4, or IPv6 whose first 96 bits are not all
zero (`::a.b.c.d` is indistinguishable from the zero-padded IPv4 form on the wire) -/
def Request.WF (r : Request) : Prop :=
  r.id < 65536 ∧ r.seq < 65536 ∧ r.ttl < 256 ∧ r.dataSize < 65536 ∧
  (match r.dest with
   | .v4 a b c d => a < 256 ∧ b < 256 ∧ c < 256 ∧ d < 256
   | .v6 x => x.s0 < 65536 ∧ x.s1 < 65536 ∧ x.s2 < 65536 ∧ x.s3 < 65536 ∧ x.s4 < 65536 ∧ x.s5 < 65536 ∧
       x.s6 < 65536 ∧ x.s7 < 65536 ∧ ¬ (x.s0 = 0 ∧ x.s1 = 0 ∧ x.s2 = 0 ∧ x.s3 = 0 ∧ x.s4 = 0 ∧ x.s5 = 0))

/-- **Fields are faithful**: identifier, destination, sequence number, TTL and data size of a
record are exactly what the client encoded -/
theorem request_fields_faithful (r : Request) (h : r.WF) (rest : Bytes) :
    parseRequest (encodeRequest r ++ rest) = .ok r := by
  obtain ⟨h1, h2, h3, h4, (h5 : IpWF r.dest)⟩ := h
  simp only [encodeRequest, List.append_assoc, List.cons_append, List.nil_append, parseRequest,
    getU16_u16be h1, getFixedIp_put h5, getU16_u16be h2, getU8, getU16_u16be h4]

/-- the echo type follows the destination family -/
theorem request_type (r : Request) : requestType r = (match r.dest with | .v4 .. => 8 | .v6 _ => 128) := by
  cases h : r.dest <;> simp [requestType, Ip.Ip.isV6, h]

/-- **Requested TTL / hop limit on the wire**: the echo request that leaves the endpoint for a record
goes to the record's destination, with the record's TTL / hop limit, identifier, sequence number and data
size, whatever follows the record in the stream -/
theorem request_leaves_as_requested (r : Request) (h : r.WF) (rest : Bytes) :
    ∃ q, parseRequest (encodeRequest r ++ rest) = .ok q ∧
      outgoing q = ⟨r.dest, r.ttl, (match r.dest with | .v4 .. => 8 | .v6 _ => 128), r.id, r.seq, r.dataSize⟩ := by
  refine ⟨r, request_fields_faithful r h rest, ?_⟩
  simp only [outgoing, request_type]

example : (⟨7, .v4 127 0 0 1, 3, 5, 24⟩ : Request).WF ∧
    (outgoing ⟨7, .v4 127 0 0 1, 3, 5, 24⟩).hopLimit = 5 := by
  refine ⟨?_, rfl⟩
  simp [Request.WF]

/-- **No panic, bounded buffer**: from any buffer shorter than a record, feeding any chunk
neither trips an assertion nor leaves more than 22 buffered bytes -/
theorem decoder_step_safe (buffer chunk : Bytes) (hb : buffer.length < reqSize) :
    (∃ b', onMessageChunk buffer chunk = .wantMore b' ∧ b' = buffer ++ chunk ∧ b'.length < reqSize) ∨
    (∃ raw tail, onMessageChunk buffer chunk = .complete raw tail ∧ raw.length = reqSize ∧
        buffer ++ chunk = raw ++ tail) := by
  rw [onMessageChunk_eq hb]
  by_cases h : (buffer ++ chunk).length < reqSize
  · rw [if_pos h]
    exact .inl ⟨_, rfl, rfl, h⟩
  · rw [if_neg h]
    exact .inr ⟨_, _, rfl, List.length_take_of_le (Nat.le_of_not_lt h), (List.take_append_drop _ _).symm⟩

/-- **Segmentation invariance**: for every split of the stream into chunks, the requests decoded
through the re-queueing glue are exactly the consecutive 23-byte records of the concatenation,
and the bytes left in the decoder are the incomplete trailing record. -/
theorem request_decode_segmentation (chunks : List Bytes) (fuel : Nat)
    (hf : fuel ≥ chunks.length + chunks.flatten.length + 1) :
    decodeStream fuel [] chunks [] =
      some (specDecode (chunks.flatten.length + 1) chunks.flatten,
            chunks.flatten.drop (reqSize * (chunks.flatten.length / reqSize))) :=
  decodeStream_eq [] chunks [] _ chunks.flatten (by decide) rfl hf (Nat.le_succ_of_le (Nat.div_le_self _ _))

/-- and the record-level spec returns the encoded requests, in order -/
theorem spec_decode_encode (rs : List Request) (h : ∀ r ∈ rs, r.WF) (fuel : Nat) (hf : fuel ≥ rs.length + 1) :
    specDecode fuel (rs.map encodeRequest).flatten = rs := by
  induction rs generalizing fuel with
  | nil => exact specDecode_short fuel [] (by decide)
  | cons r rs ih =>
    obtain ⟨F, rfl⟩ : ∃ F, fuel = F + 1 := ⟨fuel - 1, by simp at hf; omega⟩
    have hlen : (encodeRequest r).length = reqSize := by
      simp only [encodeRequest, List.length_append, u16be_length, putFixedIp_length, List.length_singleton]
      rfl
    have hp : parseRequest (encodeRequest r) = .ok r := by
      simpa using request_fields_faithful r (h r (by simp)) []
    rw [List.map_cons, List.flatten_cons, specDecode_append _ _ hlen hp,
      ih (fun x hx => h x (by simp [hx])) F (by simp at hf; omega)]

/-! ### parsers of network input never panic (shared with C09) -/

theorem skipIpv4_no_panic (p : Bytes) : (skipIpv4Header p).isOk = true := by
  rw [skipIpv4Header_eq p _ rfl]; rfl

theorem skipIpv6_no_panic (p : Bytes) : (skipIpv6Header p).isOk = true := by
  unfold skipIpv6Header
  by_cases hl : p.length < 40
  · rw [if_pos hl]; rfl
  · simp only [if_neg hl, advance_ok 6 p (by omega), getU8_drop p 6 (by omega),
      advance_drop p (6 + 1) 33 (by omega)]
    exact skipIpv6Ext_no_panic _ _ _

theorem deserializeV4_no_panic (p : Bytes) : deserializeV4 p ≠ .panic := by
  cases p with
  | nil => nofun
  | cons t p =>
    -- the dispatch table of `deserializeV4`, each parser with the length check that guards it
    have echo := fun t => lower_ne_panic p _ 8 4 (by decide) (parseEcho_ne_panic t)
    have err := fun t f => lower_ne_panic p _ 36 4 (by decide) (parseErr_ne_panic t f)
    have ts := fun t => exact_ne_panic p _ 20 16 (by decide) (parseTimestamp_ne_panic t)
    have info := fun t => exact_ne_panic p _ 20 4 (by decide) (parseInformation_ne_panic t)
    exact ite_ne (echo 0) <| ite_ne (err 3 _) <| ite_ne (err 4 _) <|
      ite_ne (err 5 _) <| ite_ne (echo 8) <| ite_ne (err 11 _) <|
      ite_ne (err 12 _) <| ite_ne (ts 13) <| ite_ne (ts 14) <|
      ite_ne (info 15) <| ite_ne (info 16) nofun

theorem deserializeV6_no_panic (p : Bytes) : deserializeV6 p ≠ .panic := by
  cases p with
  | nil => nofun
  | cons t p =>
    have echo := fun t => lower_ne_panic p _ 8 4 (by decide) (parseEcho_ne_panic t)
    have err := fun t f => lower_ne_panic p _ 48 4 (by decide) (parseErr_ne_panic t f)
    exact ite_ne (err 1 _) <| ite_ne (err 2 _) <| ite_ne (err 3 _) <|
      ite_ne (err 4 _) <| ite_ne (echo 128) <| ite_ne (echo 129) nofun

theorem respondedV4_no_panic (m : Msg) : respondedV4 m ≠ .panic := by
  unfold respondedV4
  split
  · nofun
  · nofun
  · exact quotedEcho_ne_panic _ (skipIpv4_no_panic _) _ _
  · nofun

theorem respondedV6_no_panic (m : Msg) : respondedV6 m ≠ .panic := by
  unfold respondedV6
  split
  · nofun
  · nofun
  · exact quotedEcho_ne_panic _ (skipIpv6_no_panic _) _ _
  · nofun

/-! ### replies and quoting errors designate the request -/

/-- an echo reply designates itself -/
theorem reply_designates (e : Echo) : respondedV4 (.echo 0 e) = .some e ∧ respondedV6 (.echo 129 e) = .some e := by
  simp [respondedV4, respondedV6]

/-- an ICMPv4 error quoting `IPv4 header (IHL = 5, protocol 1) ++ echo request` designates the
request's identifier and sequence number (data = the quoted part of the payload) -/
theorem v4_error_designates (t c : Nat) (hdr : Bytes) (e : Echo) (q : Bytes)
    (hh : hdr.length = 20) (h0 : hdr[0]? = some 0x45) (hp : hdr[9]? = some 1)
    (hid : e.id < 65536) (hseq : e.seq < 65536)
    (hq : q = 8 :: 0 :: 0 :: 0 :: (u16be e.id ++ u16be e.seq ++ e.data)) :
    respondedV4 (.err t c (hdr ++ q)) = .some ⟨0, e.id, e.seq, e.data⟩ := by
  subst hq
  rw [respondedV4, skipIpv4_plain hh h0 hp]
  exact quotedEcho_echo 1 8 0 0 0 hid hseq e.data

/-- 7.4 format: identifier, 16-byte responder address, type, code, sequence number -/
theorem reply_format (v6 : Bool) (peer : Ip.Ip) (m : Msg) (e : Echo)
    (h : (if v6 then respondedV6 m else respondedV4 m) = .some e) :
    encodeReply v6 peer m = .some (u16be e.id ++ putFixedIp peer ++ [m.typeId, m.code] ++ u16be e.seq) := by
  simp [encodeReply, h]

/-! ### waiter table (reachable tables: built from the empty one by sends, receives and timer sweeps,
`Table.step` over a list of `Op`, `TT/Lemmas/Icmp.lean`) -/

/-- **Only the requester is told**: a delivery goes to the client recorded in a live waiter whose
key matches the extracted request; with no matching waiter nothing is reported. -/
theorem recv_reports_only_requester (t : Table) (req : Echo) (full : Bool) (c : Nat)
    (h : (t.recv req full).2 = some c) :
    ∃ w ∈ t.waiters, echoKeyEq w.key req = true ∧ w.client = c := by
  unfold Table.recv at h
  split at h
  · simp at h
  · next w hw =>
    split at h
    · simp at h
    · simp only [Option.some.injEq] at h
      exact ⟨w, List.mem_of_find?_eq_some hw, List.find?_some (p := fun w : Waiter => echoKeyEq w.key req) hw, h⟩

theorem recv_unmatched_silent (t : Table) (req : Echo) (full : Bool)
    (h : ∀ w ∈ t.waiters, echoKeyEq w.key req = false) : (t.recv req full).2 = none := by
  cases hr : (t.recv req full).2 with
  | none => rfl
  | some c =>
    obtain ⟨w, hw, hk, -⟩ := recv_reports_only_requester t req full c hr
    rw [h w hw] at hk
    cases hk

/-- each waiter still has a deadline entry for its key, no later than its own deadline: the entry by
which a sweep finds it -/
def Table.Sched (t : Table) : Prop :=
  ∀ w ∈ t.waiters, ∃ d ∈ t.deadlines, d.1 ≤ w.deadline ∧ echoKeyEq w.key d.2 = true

theorem sched_init : (({} : Table)).Sched := by
  intro w hw; cases hw

theorem sched_step (timeout : Nat) (t : Table) (op : Op) (h : t.Sched) : (t.step timeout op).Sched := by
  intro w hw
  cases op with
  | send c e now =>
    show ∃ d ∈ t.deadlines ++ [(now + timeout, e)], _
    rcases mem_send_waiters hw with hw | ⟨hd, hk⟩
    · obtain ⟨d, hd, h12⟩ := h w hw
      exact ⟨d, List.mem_append_left _ hd, h12⟩
    · exact ⟨_, List.mem_append_right _ (List.mem_singleton_self _), Nat.le_of_eq hd.symm, hk⟩
  | recv req full =>
    obtain ⟨h1, h2⟩ := recv_only_drops_waiters t req full
    show ∃ d ∈ (t.recv req full).1.deadlines, _
    rw [h1]
    exact h w (h2.subset hw)
  | tick now =>
    obtain ⟨hw1, hw2⟩ := tick_waiter hw
    obtain ⟨d, hd, h1, h2⟩ := h w hw1
    exact ⟨d, List.mem_filter.mpr ⟨hd, by simpa using hw2 d hd h2⟩, h1, h2⟩

/-- **Late packets are dropped / waiters are forgotten**: after a sweep at `now`, no waiter whose
own deadline entry has passed remains, provided each waiter still has its deadline entry
(invariant `Sched`, preserved by every operation: `sched_init`, `sched_step`). -/
theorem tick_forgets (t : Table) (now : Nat) (h : t.Sched) :
    ∀ w ∈ (t.tick now).waiters, now < w.deadline := by
  intro w hw
  obtain ⟨hw1, hw2⟩ := tick_waiter hw
  obtain ⟨d, hd, h1, h2⟩ := h w hw1
  exact Nat.lt_of_lt_of_le (hw2 d hd h2) h1

/-- **Bounded table**: the table never holds more waiters than echo requests were sent, and (with
`tick_forgets`) after a sweep at `now` only requests (re)scheduled within the last `timeout`
remain. -/
theorem waiters_le_sends (timeout : Nat) (ops : List Op) :
    (ops.foldl (Table.step timeout) {}).waiters.length ≤ countSends ops :=
  Nat.zero_add (countSends ops) ▸ waiters_foldl_le timeout ops {}

theorem tick_deadlines (t : Table) (now : Nat) : ∀ d ∈ (t.tick now).deadlines, now < d.1 := by
  intro d hd
  simpa using (List.mem_filter.mp hd).2

end TT.Icmp
