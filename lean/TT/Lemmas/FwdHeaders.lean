import TT.Model.Fwd
import TT.Lemmas.Bytes
/-!
Lemmas for the header part of C17: `convert_response`, `serialize_request` and the credit counter, each header by
header (a fold over the header list with one statement about a single header and one about the fold).
-/
namespace TT.Fwd
open TT TT.Bytes

/-! ## `convert_response`, header by header

What one header does to `kept` and `drop` (`convHeader_spec`); over the fold: what is kept is a sublist of the origin's headers
under names that were not to be dropped (`convFold_kept`), and every end-to-end header is kept (`convFold_keeps`). -/

/-- a name under which `convert_response` forwards a header while `drop` holds the names to be dropped -/
structure KeptName (ver : Ver) (drop : List Bytes) (n : Bytes) : Prop where
  notDropped : n ∉ drop
  notConnection : n ≠ str "connection"
  notTE : ver.isH1 = false → n ≠ str "transfer-encoding"

/-- what one header `h` makes of the state `c` of `convert_response`: it either leaves `kept` alone and may add to `drop`,
or goes to the end of `kept` -/
structure ConvStep (ver : Ver) (c : Conv) (h : Bytes × Bytes) (c' : Conv) : Prop where
  kept : c'.kept = c.kept ∨ (c'.kept = c.kept ++ [h] ∧ KeptName ver c.drop h.1)
  drop : c'.drop = c.drop ∨ (h.1 = str "connection" ∧ c'.drop = c.drop ++ connectionTokens h.2) ∨
    c'.drop = c.drop ++ [str "content-length", str "transfer-encoding"]

theorem convHeader_spec (ver : Ver) (c : Conv) (h : Bytes × Bytes) : ConvStep ver c h (convHeader ver c h) := by
  have keep (n : Bytes) (hd : ¬ c.drop.contains n = true) (hcn : ¬ (n == str "connection") = true)
      (hte : ¬ (n == str "transfer-encoding" && !ver.isH1) = true) : KeptName ver c.drop n :=
    ⟨by simpa using hd, by simpa using hcn, fun h1 h2 => hte (by simp [h1, h2])⟩
  fun_cases convHeader ver c h
  · exact ⟨.inl rfl, .inl rfl⟩
  · exact ⟨.inl rfl, .inr (.inl ⟨eq_of_beq ‹_›, rfl⟩)⟩
  · exact ⟨.inl rfl, .inr (.inr rfl)⟩
  · exact ⟨.inr ⟨rfl, keep _ ‹_› ‹_› ‹_›⟩, .inl rfl⟩
  · exact ⟨.inl rfl, .inl rfl⟩
  · exact ⟨.inr ⟨rfl, keep _ ‹_› ‹_› ‹_›⟩, .inl rfl⟩

theorem convHeader_drop {ver : Ver} {c : Conv} (h : Bytes × Bytes) {y : Bytes} (hy : y ∈ c.drop) :
    y ∈ (convHeader ver c h).drop := by
  rcases (convHeader_spec ver c h).drop with e | ⟨_, e⟩ | e <;> rw [e]
  · exact hy
  · exact List.mem_append_left _ hy
  · exact List.mem_append_left _ hy

theorem convFold_kept (ver : Ver) (l : List (Bytes × Bytes)) (c : Conv) :
    ∃ k, (l.foldl (convHeader ver) c).kept = c.kept ++ k ∧ k.Sublist l ∧ ∀ x ∈ k, KeptName ver c.drop x.1 := by
  induction l generalizing c with
  | nil => exact ⟨[], by simp⟩
  | cons h t ih =>
    obtain ⟨k, hk1, hk2, hk3⟩ := ih (convHeader ver c h)
    have hk3' : ∀ x ∈ k, KeptName ver c.drop x.1 :=
      fun x hx => { hk3 x hx with notDropped := fun hd => (hk3 x hx).notDropped (convHeader_drop h hd) }
    rw [List.foldl_cons, hk1]
    rcases (convHeader_spec ver c h).kept with h1 | ⟨h1, h3⟩
    · exact ⟨k, by rw [h1], hk2.cons _, hk3'⟩
    · refine ⟨h :: k, by rw [h1]; simp, hk2.cons_cons _, fun x hx => ?_⟩
      rcases List.mem_cons.mp hx with rfl | hx
      · exact h3
      · exact hk3' x hx

theorem convHeader_notDropped {ver : Ver} {c : Conv} {h : Bytes × Bytes} {n : Bytes}
    (hn : n ∉ c.drop) (h2 : n ≠ str "transfer-encoding") (h3 : n ≠ str "content-length")
    (h4 : h.1 = str "connection" → n ∉ connectionTokens h.2) :
    n ∉ (convHeader ver c h).drop := by
  rcases (convHeader_spec ver c h).drop with e | ⟨hc, e⟩ | e <;> rw [e]
  · exact hn
  · simp [hn, h4 hc]
  · simp [hn, h2, h3]

theorem convHeader_keeps {ver : Ver} {c : Conv} {x : Bytes × Bytes}
    (hn : x.1 ∉ c.drop) (h1 : x.1 ≠ str "connection") (h2 : x.1 ≠ str "transfer-encoding")
    (h3 : x.1 ≠ str "content-length") :
    x ∈ (convHeader ver c x).kept := by
  obtain ⟨m, v⟩ := x
  simp only at hn h1 h2 h3
  simp [convHeader, hn, h1, h2, h3]

theorem convFold_keeps {ver : Ver} {x : Bytes × Bytes} {l : List (Bytes × Bytes)} {c : Conv}
    (h1 : x.1 ≠ str "connection") (h2 : x.1 ≠ str "transfer-encoding") (h3 : x.1 ≠ str "content-length")
    (hd : x.1 ∉ c.drop) (h4 : ∀ h ∈ l, h.1 = str "connection" → x.1 ∉ connectionTokens h.2)
    (hx : x ∈ c.kept ∨ x ∈ l) : x ∈ (l.foldl (convHeader ver) c).kept := by
  induction l generalizing c with
  | nil => simpa using hx
  | cons h t ih =>
    rw [List.foldl_cons]
    apply ih (convHeader_notDropped hd h2 h3 (h4 h (by simp))) (fun y hy => h4 y (by simp [hy]))
    rcases hx with hx | hx
    · left
      rcases (convHeader_spec ver c h).kept with e | ⟨e, _⟩ <;> rw [e]
      · exact hx
      · exact List.mem_append_left _ hx
    · rcases List.mem_cons.mp hx with rfl | hx
      · left; exact convHeader_keeps hd h1 h2 h3
      · right; exact hx

theorem mem_connInit_drop {hs : List (Bytes × Bytes)} {n : Bytes} :
    n ∈ (connInit hs).drop ↔ n ∈ [str "proxy-connection", str "keep-alive", str "upgrade"] ∨
      ∃ c ∈ hs, c.1 = str "connection" ∧ n ∈ connectionTokens c.2 := by
  simp only [connInit, List.mem_append, List.mem_flatten, List.mem_map, List.mem_filter, beq_iff_eq]
  exact or_congr_right ⟨fun ⟨_, ⟨c, ⟨hc, hn⟩, e⟩, ht⟩ => ⟨c, hc, hn, e ▸ ht⟩,
    fun ⟨c, hc, hn, ht⟩ => ⟨_, ⟨c, ⟨hc, hn⟩, rfl⟩, ht⟩⟩

theorem convertResponse_eq_some {ver : Ver} {method : Bytes} {h : Head} {kept : List (Bytes × Bytes)}
    {bl : Option BodyLen} (hc : convertResponse ver method h = some (kept, bl)) :
    kept = (h.headers.foldl (convHeader ver) (connInit h.headers)).kept ∧
    bl = if isHead method || (100 ≤ h.status ∧ h.status < 200) || h.status == 204 || h.status == 304
      then some (.determined 0) else (h.headers.foldl (convHeader ver) (connInit h.headers)).bodyLen := by
  unfold convertResponse at hc
  simp only at hc
  split at hc
  · simp at hc
  · simp only [Option.some.injEq, Prod.mk.injEq] at hc
    exact ⟨hc.1.symm, hc.2.symm⟩

theorem convertResponse_kept_spec {ver : Ver} {method : Bytes} {h : Head} {kept : List (Bytes × Bytes)}
    {bl : Option BodyLen} (hc : convertResponse ver method h = some (kept, bl)) :
    kept.Sublist h.headers ∧ ∀ x ∈ kept, KeptName ver (connInit h.headers).drop x.1 := by
  obtain ⟨k, hk1, hk2, hk3⟩ := convFold_kept ver h.headers (connInit h.headers)
  rw [(convertResponse_eq_some hc).1, hk1]
  exact ⟨hk2, hk3⟩

/-! ## `serialize_request`, header by header

What one header that is not refused does to the output, the `Host` flag and the body length (`serHeader_spec`); over the fold: the
header block that is written (`serFold_out`) and the body length that a valid Content-Length fixes (`serFold_bodyLen`). -/

def keepReq (h : Bytes × Bytes) : Bool := h.1 != str "proxy-authorization" && h.1 != str "proxy-connection"

def reqLine (authority : Bytes) (h : Bytes × Bytes) : Bytes :=
  if h.1 == str "host" then str "host: " ++ authority ++ [13, 10] else h.1 ++ str ": " ++ h.2 ++ [13, 10]

/-- what a request header `h` that does not have the request refused makes of the state `s` of `serialize_request` -/
structure SerStep (a : Bytes) (s : Ser) (h : Bytes × Bytes) (s' : Ser) : Prop where
  notRefused : s.refused = false
  out : s'.out = s.out ++ (if keepReq h then reqLine a h else [])
  hostInserted : s'.hostInserted = (s.hostInserted || (keepReq h && h.1 == str "host"))
  contentLength : h.1 = str "content-length" →
    (s.bodyLen = none ∧ ∃ k, parseDec h.2 = some k ∧ s'.bodyLen = some (.determined k)) ∨
    (s.bodyLen = some .chunked ∧ s'.bodyLen = some .chunked)
  other : h.1 ≠ str "content-length" → (h.1 = str "transfer-encoding" → h.2 ≠ str "chunked") → s'.bodyLen = s.bodyLen

theorem serHeader_spec {a : Bytes} {s : Ser} {h : Bytes × Bytes} (hr : (serHeader a s h).refused = false) :
    SerStep a s h (serHeader a s h) := by
  -- the fields as one conjunction: each branch of `serHeader` is then one `simp`
  suffices hf : _ ∧ _ ∧ _ ∧ _ ∧ _ from ⟨hf.1, hf.2.1, hf.2.2.1, hf.2.2.2.1, hf.2.2.2.2⟩
  have hne : (str "content-length" == str "proxy-authorization" || str "content-length" == str "proxy-connection") = false ∧
      (str "content-length" == str "host") = false := by decide +kernel
  have hkeep (n v : Bytes) : keepReq (n, v) = !(n == str "proxy-authorization" || n == str "proxy-connection") := by
    simp only [keepReq, bne, Bool.not_or]
  revert hr
  -- the branches: dropped, a second `Host` (refused), the first `Host`, any other header (`s'` is `s` after the
  -- body-length rule)
  fun_cases serHeader a s h <;> intro hr
  · rename_i n v hk
    have hcl : n ≠ str "content-length" := by rintro rfl; simp [hne.1] at hk
    simp [hkeep, hk, hcl, hr]
  · cases hr
  · rename_i n v hk hh hi
    have hcl : n ≠ str "content-length" := by rintro rfl; simp [hne.2] at hh
    simpa [hkeep, hk, hcl, hh, reqLine, hi] using hr
  · rename_i n v hk hh s'
    simp only [hkeep, hk, reqLine, hh, if_true, Bool.false_eq_true, if_false, Bool.true_and, Bool.or_false, Bool.not_false]
    change s'.refused = false at hr
    by_cases hcl : n = str "content-length"
    · cases hb : s.bodyLen with
      | none =>
        cases hp : parseDec v with
        | none => simp [s', hcl, hb, hp] at hr
        | some k => simpa [s', hcl, hb, hp] using hr
      | some b =>
        cases b with
        | determined j => simp [s', hcl, hb] at hr
        | chunked => simpa [s', hcl, hb] using hr
    · by_cases hte : (n == str "transfer-encoding" && v == str "chunked") = true
      · simp [s', hcl, hte] at hr ⊢
        have e : n = str "transfer-encoding" ∧ v = str "chunked" := by simpa using hte
        exact ⟨hr, fun h => absurd e.2 (h e.1)⟩
      · simpa [s', hcl, hte] using hr

/-- a refusal stays -/
theorem serFold_notRefused (a : Bytes) (l : List (Bytes × Bytes)) {s : Ser}
    (hr : (l.foldl (serHeader a) s).refused = false) : s.refused = false := by
  induction l generalizing s with
  | nil => exact hr
  | cons h t ih => exact (serHeader_spec (ih hr)).notRefused

theorem serFold_out (a : Bytes) (l : List (Bytes × Bytes)) (s : Ser) (hr : (l.foldl (serHeader a) s).refused = false) :
    (l.foldl (serHeader a) s).out = s.out ++ ((l.filter keepReq).map (reqLine a)).flatten ∧
    (l.foldl (serHeader a) s).hostInserted = (s.hostInserted || (l.filter keepReq).any (·.1 == str "host")) := by
  induction l generalizing s with
  | nil => simp
  | cons h t ih =>
    have hs := serHeader_spec (serFold_notRefused a t hr)
    obtain ⟨i1, i2⟩ := ih _ hr
    rw [List.foldl_cons, i1, i2, hs.out, hs.hostInserted]
    by_cases hk : keepReq h = true <;> simp [hk, Bool.or_assoc]

theorem serializeRequest_bytes {r : Request} {bytes : Bytes} {bl : BodyLen} (h : serializeRequest r = .ok bytes bl) :
    (r.headers.foldl (serHeader r.authority) {}).refused = false ∧
    bytes = r.method ++ [32] ++ (if r.method = str "OPTIONS" then str "*" else r.target) ++ str " HTTP/" ++
      versionDigits r.ver ++ [13, 10] ++ (r.headers.foldl (serHeader r.authority) {}).out ++
      (if (r.headers.foldl (serHeader r.authority) {}).hostInserted then [] else str "host: " ++ r.authority ++ [13, 10]) ++
      [13, 10] ∧
    bl = ((if isHead r.method then some (.determined 0)
            else match (r.headers.foldl (serHeader r.authority) {}).bodyLen with
              | some b => some b
              | none => if r.ver.isH1 then none else some .chunked).getD (.determined 0)) := by
  unfold serializeRequest at h
  simp only at h
  split at h
  · simp at h
  · rename_i hr
    simp only [SerRes.ok.injEq] at h
    refine ⟨by simpa using hr, ?_, h.2.symm⟩
    rw [← h.1]
    simp only [beq_iff_eq]

theorem reqLine_crlf (a : Bytes) (h : Bytes × Bytes) : [13, 10] <:+ reqLine a h := by
  unfold reqLine
  split <;> exact List.suffix_append _ _

theorem reqLines_crlf (a : Bytes) (l : List (Bytes × Bytes)) {x : Bytes} (hx : [13, 10] <:+ x) :
    [13, 10] <:+ x ++ (l.map (reqLine a)).flatten := by
  induction l generalizing x with
  | nil => simpa using hx
  | cons h t ih =>
    rw [List.map_cons, List.flatten_cons, ← List.append_assoc]
    exact ih (List.suffix_append_of_suffix (reqLine_crlf a h))

theorem serializeRequest_crlf {r : Request} {bytes : Bytes} {bl : BodyLen} (h : serializeRequest r = .ok bytes bl) :
    [13, 10, 13, 10] <:+ bytes := by
  obtain ⟨hr, rfl, _⟩ := serializeRequest_bytes h
  rw [(serFold_out r.authority r.headers {} hr).1]
  refine (List.suffix_append_self_iff (l₁ := [13, 10]) (l₃ := [13, 10])).mpr ?_
  generalize Ser.hostInserted _ = hi
  cases hi
  · exact List.suffix_append_of_suffix (List.suffix_append _ _)
  · rw [if_pos rfl, List.append_nil]; exact reqLines_crlf _ _ (List.suffix_append _ _)

theorem forwardBody_determined (n : Nat) (chunks : List Bytes) (sent : Nat) :
    forwardBody (.determined n) sent chunks = chunks.flatten.take (n - sent) := by
  induction chunks generalizing sent with
  | nil => simp [forwardBody]
  | cons c rest ih =>
    simp only [forwardBody]
    split
    · rw [ih, List.flatten_cons, List.take_append, take_min_length]
      congr 2
      rw [Nat.sub_add_eq, Nat.min_comm, ← Nat.sub_eq_sub_min]
    · rw [Nat.sub_eq_zero_of_le (Nat.le_of_not_lt ‹_›), List.take_zero]

/-- the second conjunct is the result; the first is what the induction needs besides: a length once found stays -/
theorem serFold_bodyLen (a : Bytes) (l : List (Bytes × Bytes)) (s : Ser) (hr : (l.foldl (serHeader a) s).refused = false)
    (hte : ∀ x ∈ l, x.1 = str "transfer-encoding" → x.2 ≠ str "chunked") (hnc : s.bodyLen ≠ some .chunked) :
    (∀ j, s.bodyLen = some (.determined j) → (l.foldl (serHeader a) s).bodyLen = some (.determined j)) ∧
    (∀ v k, (str "content-length", v) ∈ l → parseDec v = some k →
      (l.foldl (serHeader a) s).bodyLen = some (.determined k)) := by
  induction l generalizing s with
  | nil => exact ⟨fun _ h => h, by simp⟩
  | cons h t ih =>
    have hs := serHeader_spec (serFold_notRefused a t hr)
    have ih := ih _ hr (fun x hx => hte x (by simp [hx]))
    rw [List.foldl_cons]
    by_cases hcl : h.1 = str "content-length"
    · rcases hs.contentLength hcl with ⟨hs0, k', hk', hs'⟩ | ⟨hs0, _⟩
      · have ih := ih (by rw [hs']; simp)
        refine ⟨fun j hj => (by rw [hs0] at hj; cases hj), fun v k hmem hk => ?_⟩
        rcases List.mem_cons.mp hmem with heq | hmem
        · obtain rfl : h.2 = v := by rw [← heq]
          rw [hk] at hk'; cases hk'
          exact ih.1 _ hs'
        · exact ih.2 v k hmem hk
      · exact absurd hs0 hnc
    · have hstep := hs.other hcl (hte h (by simp))
      have ih := ih (by rw [hstep]; exact hnc)
      refine ⟨fun j hj => ih.1 j (by rw [hstep]; exact hj), fun v k hmem hk => ?_⟩
      rcases List.mem_cons.mp hmem with heq | hmem
      · exact absurd (by rw [← heq]) hcl
      · exact ih.2 v k hmem hk

theorem Credit.consume_eq (c : Credit) (n : Nat) : c.consume n = ⟨c.skip - n, c.released + (n - c.skip)⟩ := by
  rw [Credit.consume, ← Nat.sub_eq_sub_min, Nat.min_comm, ← Nat.sub_eq_sub_min]

/-- the credit depends on the acknowledgements through their sum alone -/
theorem credit_fold (c : Credit) (acks : List Nat) :
    acks.foldl Credit.consume c = ⟨c.skip - acks.sum, c.released + (acks.sum - c.skip)⟩ := by
  induction acks generalizing c with
  | nil => simp
  | cons n ns ih =>
    rw [List.foldl_cons, ih, Credit.consume_eq, List.sum_cons]
    simp only [Credit.mk.injEq]
    constructor <;> omega

end TT.Fwd
