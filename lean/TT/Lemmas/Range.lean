/-
Kernel-checkable exhaustive test of a Boolean function on an interval of naturals by binary
splitting (recursion depth logarithmic in the interval, so `decide +kernel` / `rfl` can
evaluate it for 2^16 points), with its soundness lemma: a way to turn a bit-mask test on `u16`
values into an interval statement without `native_decide` or `bv_decide`.  Nothing uses it: the mask tests
of C03 are proved algebraically (`TT.Ip.mask_test`).
-/
namespace TT

def allRange (f : Nat → Bool) : (fuel : Nat) → (lo len : Nat) → Bool
  | 0, lo, len => if len = 0 then true else if len = 1 then f lo else false
  | k+1, lo, len =>
    if len = 0 then true else if len = 1 then f lo
    else allRange f k lo (len/2) && allRange f k (lo + len/2) (len - len/2)

theorem allRange_sound {f : Nat → Bool} {fuel lo len : Nat} (h : allRange f fuel lo len = true)
    {x : Nat} (h1 : lo ≤ x) (h2 : x < lo + len) : f x = true := by
  -- cases 1, 4: `len = 0`; 2, 5: `len = 1`; 3: out of fuel; 6: the recursive case
  fun_induction allRange f fuel lo len with
  | case1 | case4 => omega
  | case2 lo | case5 _ lo =>
    have : x = lo := by omega
    subst this; exact h
  | case3 => cases h
  | case6 k lo len _ _ ih1 ih2 =>
    rw [Bool.and_eq_true] at h
    by_cases hx : x < lo + len / 2
    · exact ih1 h.1 h1 hx
    · exact ih2 h.2 (by omega) (by omega)

theorem forall_lt_of_allRange (f : Nat → Bool) (n fuel : Nat) (h : allRange f fuel 0 n = true) :
    ∀ x, x < n → f x = true := fun x hx => allRange_sound h (Nat.zero_le x) (by omega)

end TT
