import TT.Model.Scrub
/-!
For C20. `scrubHeaders` is one `scrubStep` per sensitive name (`scrubAll sensitive`); what is shown of `scrubAll S` holds
for any list of names `S`. Non-interference: `Rel S` relates header lists with the same names and the same values except under the names in `S`; `scrubStep name` takes `Rel (name :: S)` to
`Rel S`, and `Rel []` is equality.
-/
namespace TT.Scrub

/-- one iteration of the `foldl` of `scrubHeaders` -/
def scrubStep (name : String) (acc : Headers) : Headers :=
  if acc.any (fun h => h.1 == name) then insertReplace acc name placeholder else acc

/-- `scrubStep` for each name of `S` in turn; `scrubHeaders hs` unfolds to `scrubAll sensitive hs` -/
def scrubAll (S : List String) (hs : Headers) : Headers := S.foldl (fun acc name => scrubStep name acc) hs

/-- names agree pointwise, values agree unless the name is in `S`; C20's `SameUpToSecrets` is `Rel sensitive` written out -/
def Rel (S : List String) : Headers → Headers → Prop
  | [], [] => True
  | (n1, v1) :: r1, (n2, v2) :: r2 => n1 = n2 ∧ (n1 ∈ S ∨ v1 = v2) ∧ Rel S r1 r2
  | _, _ => False

theorem Rel.eq_of_nil {a b : Headers} (h : Rel [] a b) : a = b := by
  fun_induction Rel [] a b <;> simp_all

theorem Rel.any_eq {S : List String} {a b : Headers} (h : Rel S a b) (name : String) :
    a.any (fun h => h.1 == name) = b.any (fun h => h.1 == name) := by
  fun_induction Rel S a b <;> simp_all

theorem Rel.drop {S : List String} {name : String} {a b : Headers} (h : Rel (name :: S) a b)
    (ha : a.any (fun h => h.1 == name) = false) : Rel S a b := by
  fun_induction Rel (name :: S) a b with
  | case1 => trivial
  | case2 n1 v1 r1 n2 v2 r2 ih =>
    obtain ⟨rfl, hv, hr⟩ := h
    simp only [List.any_cons, Bool.or_eq_false_iff, beq_eq_false_iff_ne, ne_eq] at ha
    exact ⟨rfl, by simpa [ha.1] using hv, ih hr ha.2⟩
  | case3 => exact h.elim

theorem Rel.go {S : List String} {name : String} {a b : Headers} (h : Rel (name :: S) a b) (value : String) (d : Bool) :
    Rel S (insertReplace.go name value a d) (insertReplace.go name value b d) := by
  fun_induction Rel (name :: S) a b generalizing d with
  | case1 => trivial
  | case2 n1 v1 r1 n2 v2 r2 ih =>
    obtain ⟨rfl, hv, hr⟩ := h
    simp only [insertReplace.go]
    by_cases hc : n1 = name
    · subst hc
      simp only [beq_self_eq_true, if_true]
      -- the first entry of that name gets `value` on both sides, a later one is dropped on both: the secret is gone
      cases d
      · exact ⟨rfl, .inr rfl, ih hr true⟩
      · exact ih hr true
    · have hv' : n1 ∈ S ∨ v1 = v2 := by simpa [hc] using hv
      simp [hc, Rel, hv', ih hr]
  | case3 => exact h.elim

theorem Rel.step {S : List String} {name : String} {a b : Headers} (h : Rel (name :: S) a b) :
    Rel S (scrubStep name a) (scrubStep name b) := by
  unfold scrubStep
  rw [← h.any_eq name]
  split
  · exact h.go placeholder false
  · next hh => exact h.drop (Bool.eq_false_iff.mpr hh)

theorem Rel.scrubAll {S : List String} {a b : Headers} (h : Rel S a b) : scrubAll S a = scrubAll S b := by
  induction S generalizing a b with
  | nil => exact h.eq_of_nil
  | cons name S ih => exact ih h.step

theorem mem_go {name value : String} {x : String × String} {l : Headers} {d : Bool}
    (h : x ∈ insertReplace.go name value l d) : (x.1 = name ∧ x.2 = value) ∨ (x.1 ≠ name ∧ x ∈ l) := by
  -- an entry of the result is the replaced first entry of that name, or an entry of another name kept from `l`
  have keep {n v rest} : (x.1 = name ∧ x.2 = value) ∨ (x.1 ≠ name ∧ x ∈ rest) →
      (x.1 = name ∧ x.2 = value) ∨ (x.1 ≠ name ∧ x ∈ (n, v) :: rest) :=
    Or.imp_right fun h' => ⟨h'.1, List.mem_cons_of_mem _ h'.2⟩
  fun_induction insertReplace.go name value l d with
  | case1 => cases h
  | case2 n v rest hn ih => exact keep (ih h)
  | case3 n v rest done hn hd ih =>
    rcases List.mem_cons.1 h with rfl | h
    · exact .inl ⟨eq_of_beq hn, rfl⟩
    · exact keep (ih h)
  | case4 n v rest done hn ih =>
    rcases List.mem_cons.1 h with rfl | h
    · exact .inr ⟨fun e => hn (beq_iff_eq.2 e), List.mem_cons_self⟩
    · exact keep (ih h)

theorem mem_scrubStep {name : String} {x : String × String} {l : Headers} (h : x ∈ scrubStep name l) :
    (x.1 = name ∧ x.2 = placeholder) ∨ (x.1 ≠ name ∧ x ∈ l) := by
  unfold scrubStep at h
  split at h
  · exact mem_go h
  · next hh => exact .inr ⟨fun e => hh (List.any_eq_true.2 ⟨x, h, beq_iff_eq.2 e⟩), h⟩

/-- an entry of the scrubbed list shows the placeholder under a name of `S`, or is an entry of `l` under another name -/
theorem mem_scrubAll {S : List String} {x : String × String} {l : Headers} (h : x ∈ scrubAll S l) :
    (x.1 ∈ S ∧ x.2 = placeholder) ∨ (x.1 ∉ S ∧ x ∈ l) := by
  induction S generalizing l with
  | nil => exact .inr ⟨List.not_mem_nil, h⟩
  | cons name S ih =>
    rcases ih h with ⟨hS, hp⟩ | ⟨hS, hx⟩
    · exact .inl ⟨List.mem_cons_of_mem _ hS, hp⟩
    · rcases mem_scrubStep hx with ⟨hn, hp⟩ | ⟨hn, hx⟩
      · exact .inl ⟨hn ▸ List.mem_cons_self, hp⟩
      · exact .inr ⟨fun hc => (List.mem_cons.1 hc).elim hn hS, hx⟩

theorem filter_go {name : String} {p : String × String → Bool} (hp : ∀ v, p (name, v) = false)
    (value : String) (l : Headers) (d : Bool) :
    (insertReplace.go name value l d).filter p = l.filter p := by
  fun_induction insertReplace.go name value l d <;> simp_all [List.filter_cons]

theorem filter_scrubStep {name : String} {p : String × String → Bool} (hp : ∀ v, p (name, v) = false)
    (l : Headers) : (scrubStep name l).filter p = l.filter p := by
  unfold scrubStep
  split
  · exact filter_go hp placeholder l false
  · rfl

theorem scrubStep_eq_self {name : String} {l : Headers} (h : ∀ x ∈ l, x.1 ≠ name) : scrubStep name l = l := by
  unfold scrubStep
  rw [if_neg]
  simp only [List.any_eq_true, not_exists, not_and, beq_iff_eq]
  exact h

theorem filter_scrubAll {S : List String} {p : String × String → Bool} (hp : ∀ name ∈ S, ∀ v, p (name, v) = false)
    (l : Headers) : (scrubAll S l).filter p = l.filter p :=
  List.foldlRecOn S _ (motive := fun acc => acc.filter p = l.filter p) rfl
    fun acc ih name hn => (filter_scrubStep (hp name hn) acc).trans ih

theorem scrubAll_eq_self {S : List String} {l : Headers} (h : ∀ name ∈ S, ∀ x ∈ l, x.1 ≠ name) : scrubAll S l = l :=
  List.foldlRecOn S _ (motive := (· = l)) rfl fun _ ih name hn => by
    subst ih; exact scrubStep_eq_self (h name hn)

/-- `span` stops at the first dot or at the end -/
theorem span_label {c rest : List Char} (h : '.' ∉ c) (hr : rest = [] ∨ ∃ t, rest = '.' :: t) :
    (c ++ rest).span (· != '.') = (c, rest) := by
  suffices ∀ acc, List.span.loop (· != '.') (c ++ rest) acc = (acc.reverse ++ c, rest) by simp [List.span, this]
  induction c with
  | nil =>
    intro acc
    obtain rfl | ⟨t, rfl⟩ := hr <;> simp [List.span.loop]
  | cons x xs ih =>
    intro acc
    have hx : (x != '.') = true := by simpa using fun e => h (by simp [e])
    simp [List.span.loop, hx, ih (fun hm => h (List.mem_cons_of_mem _ hm))]

theorem scrubSni_label {c : List Char} (host : List Char) (h : '.' ∉ c) :
    scrubSni (c ++ '.' :: host) = placeholder.toList ++ '.' :: host := by
  rw [scrubSni, span_label h (.inr ⟨_, rfl⟩)]

theorem metaDebug_some (sni c : List Char) (p ch : String) :
    metaDebug sni (some c) p ch =
  "ConnectionMeta { sni: \"".toList ++ scrubSni sni ++ "\", protocol: ".toList ++ p.toList ++ ", channel: ".toList ++
    ch.toList ++ ", sni_auth_creds: ".toList ++ "Some(\"scrubbed\")".toList ++ " }".toList := rfl

end TT.Scrub
