import TT.Model.H1Relay
namespace TT.H1Relay
open TT

theorem run_relays (u w : Bytes) {pre : List Ev} (hp : ∀ e ∈ pre, e.relays = true) (rest : List Ev) :
    run { srcOpen := true, upload := u, written := w } (pre ++ rest) =
      run { srcOpen := true, upload := u ++ ups pre, written := w ++ downs pre } rest := by
  induction pre generalizing u w with
  | nil => simp [ups, downs]
  | cons e es ih =>
    obtain ⟨he, hes⟩ := List.forall_mem_cons.1 hp
    -- an event that relays is a client read or a chunk written to the client
    match e, he with
    | .up b, _ | .down b true, _ =>
      simp only [List.cons_append, run, step, if_true]
      rw [ih _ _ hes]
      simp only [ups, downs, List.append_assoc]

theorem step_closes (s : St) (e : Ev) (h : e.closes = true) : (step s e).2.isSome = true := by
  cases e with
  | clientEof | readErr | relayEof _ | relayGone _ => rfl
  | up _ | sourceGone | down _ _ => cases h

theorem run_ends (s : St) (evs : List Ev) (h : ∃ e ∈ evs, e.closes = true) : (run s evs).2.isSome = true := by
  induction evs generalizing s with
  | nil => simp at h
  | cons e es ih =>
    unfold run
    split
    · rfl
    · next s' hs =>
      -- `e` did not end the call, so a later event closes
      obtain ⟨x, hx, hc⟩ := h
      rcases List.mem_cons.1 hx with rfl | hx
      · have := step_closes s x hc
        rw [hs] at this
        cases this
      · exact ih s' ⟨x, hx, hc⟩

end TT.H1Relay
