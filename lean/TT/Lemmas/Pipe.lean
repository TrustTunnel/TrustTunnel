import TT.Model.Pipe
/-!
For C02 and C14, in three parts: one direction of a tunnel (`Inv` accounts for every byte read; after `eof()` nothing but
`flush()` is called, `Phase.late`), both directions (`DInv`), the idle timer (`trun_wf_le` along admissible events,
`late_run` along any).  Each part has a state that absorbs every further event - a failed pipe, a decided tunnel, an
expired timer - whence `foldl_fixed`.
-/
namespace TT.Pipe
open TT

theorem foldl_fixed {α β : Type} {f : β → α → β} {b : β} (h : ∀ a, f b a = b) (l : List α) : l.foldl f b = b :=
  List.foldlRecOn l f (motive := (· = b)) rfl fun _ hb a _ => hb ▸ h a

/-- A write puts the `sent` bytes into `delivered` at once; the metrics callback reports them in the next phase and
`consume` in the one after: until then (`wrote`, `metered`) the count that lags behind carries `+ sent`. -/
def Inv (s : St) : Prop :=
  match s.phase with
  | .top => s.delivered ++ s.pending.getD [] = s.readSoFar ∧ s.consumed = s.delivered.length ∧
      s.metered = s.delivered.length
  | .gotData d => s.pending = none ∧ s.delivered ++ d = s.readSoFar ∧ s.consumed = s.delivered.length ∧
      s.metered = s.delivered.length
  | .wrote sent rest => s.pending = none ∧ s.delivered ++ rest = s.readSoFar ∧
      s.consumed + sent = s.delivered.length ∧ s.metered + sent = s.delivered.length
  | .metered sent rest => s.pending = none ∧ s.delivered ++ rest = s.readSoFar ∧
      s.consumed + sent = s.delivered.length ∧ s.metered = s.delivered.length
  | .eofing | .flushing | .finished => s.pending = none ∧ s.delivered = s.readSoFar ∧ s.sawEof = true ∧
      s.consumed = s.delivered.length ∧ s.metered = s.delivered.length
  | .failed => s.delivered <+: s.readSoFar ∧ s.consumed ≤ s.delivered.length ∧
      s.metered ≤ s.delivered.length

theorem inv_init : Inv {} := by simp [Inv]

theorem inv_weak {s : St} (h : Inv s) :
    s.delivered <+: s.readSoFar ∧ s.consumed ≤ s.delivered.length ∧ s.metered ≤ s.delivered.length := by
  obtain ⟨ph, _, _, _, _, _, _, _⟩ := s
  cases ph
  case top => exact ⟨⟨_, h.1⟩, Nat.le_of_eq h.2.1, Nat.le_of_eq h.2.2⟩
  case gotData => exact ⟨⟨_, h.2.1⟩, Nat.le_of_eq h.2.2.1, Nat.le_of_eq h.2.2.2⟩
  case wrote => exact ⟨⟨_, h.2.1⟩, Nat.le.intro h.2.2.1, Nat.le.intro h.2.2.2⟩
  case metered => exact ⟨⟨_, h.2.1⟩, Nat.le.intro h.2.2.1, Nat.le_of_eq h.2.2.2⟩
  case eofing | flushing | finished =>
    exact ⟨h.2.1 ▸ List.prefix_refl _, Nat.le_of_eq h.2.2.2.1, Nat.le_of_eq h.2.2.2.2⟩
  case failed => exact h

theorem inv_feed {s : St} (r : Resp) (h : Inv s) : Inv (feed s r) := by
  -- the weak form is all that `Inv` asks of a failed pipe: this settles every row of `feed` that fails
  have hf : Inv { s with phase := .failed } := inv_weak (s := s) h
  -- with the state taken apart `feed` and `Inv` compute, here and below: `simp [feed]` on the overlapping rows of
  -- `feed` costs twenty times as much
  obtain ⟨ph, pend, del, rd, con, met, eof, rst⟩ := s
  cases ph <;> cases r
  case top.timeout | wrote.unit | eofing.unit | flushing.unit => exact h
  case top.chunk bs =>
    cases pend
    · exact ⟨rfl, congrArg (· ++ bs) ((List.append_nil del).symm.trans h.1), h.2⟩
    · exact hf
  case top.eof =>
    cases pend
    · exact ⟨rfl, (List.append_nil del).symm.trans h.1, rfl, h.2⟩
    · exact hf
  case top.unit =>
    cases pend
    · exact hf
    · exact ⟨rfl, h⟩
  case gotData.accepted d k =>
    show Inv (if k ≤ d.length then _ else _)
    split
    · next hk =>
      have hlen : (del ++ d.take k).length = del.length + k := by
        rw [List.length_append, List.length_take, Nat.min_eq_left hk]
      have happ : (del ++ d.take k) ++ d.drop k = del ++ d := by rw [List.append_assoc, List.take_append_drop]
      exact ⟨h.1, happ.trans h.2.1, (congrArg (· + k) h.2.2.1).trans hlen.symm,
        (congrArg (· + k) h.2.2.2).trans hlen.symm⟩
    · exact hf
  case metered.unit sent rest => cases rest <;> exact ⟨h.2.1, h.2.2⟩
  all_goals exact hf

theorem run_nil (s : St) : run s [] = s := rfl
theorem run_append (s : St) (rs rs' : List Resp) : run s (rs ++ rs') = run (run s rs) rs' :=
  List.foldl_append

/-- states reachable from a fresh pipe -/
def Reachable (s : St) : Prop := ∃ rs, s = run {} rs

theorem Reachable.feed {s : St} (h : Reachable s) (r : Resp) : Reachable (feed s r) := by
  obtain ⟨rs, rfl⟩ := h
  exact ⟨rs ++ [r], (run_append {} rs [r]).symm⟩

theorem inv_run {s : St} (rs : List Resp) (h : Inv s) : Inv (run s rs) :=
  List.foldlRecOn rs feed h fun _ h r _ => inv_feed r h

theorem feed_failed {s : St} (r : Resp) (h : s.phase = .failed) : feed s r = s := by
  obtain ⟨_, _, _, _, _, _, _, _⟩ := s
  cases h
  cases r <;> rfl

theorem run_failed {s : St} (rs : List Resp) (h : s.phase = .failed) : run s rs = s :=
  foldl_fixed (fun r => feed_failed r h) rs

/-- after `eof()` was issued only `flush()` can follow -/
def Phase.late : Phase → Bool
  | .flushing | .finished | .failed => true
  | _ => false

/-- a late pipe calls nothing but `flush()`, and whatever the answer it stays late -/
theorem late_stays {s : St} (h : s.phase.late = true) :
    (∀ c, next s = some c → c = .flush) ∧ ∀ r, (feed s r).phase.late = true := by
  obtain ⟨ph, _, _, _, _, _, _, _⟩ := s
  cases ph <;> cases h <;> exact ⟨fun _ hn => by cases hn <;> rfl, fun r => by cases r <;> rfl⟩

theorem late_after_sinkEof {s : St} (r : Resp) (hn : next s = some .sinkEof) : (feed s r).phase.late = true := by
  obtain ⟨ph, pend, _, _, _, _, _, _⟩ := s
  cases ph
  case top => cases pend <;> cases hn
  case eofing => cases r <;> rfl
  all_goals cases hn

theorem calls_cons (s : St) (r : Resp) (rs : List Resp) :
    calls s (r :: rs) = match next s with
      | some c => c :: calls (feed s r) rs
      | none => [] := rfl

theorem calls_after_eof {s : St} (rs : List Resp) (h : s.phase.late = true) :
    ∀ c ∈ calls s rs, c = Call.flush := by
  induction rs generalizing s with
  | nil => exact fun _ hc => nomatch hc
  | cons r rs ih =>
    rw [calls_cons]
    cases hn : next s with
    | none => exact fun _ hc => nomatch hc
    | some c => exact List.forall_mem_cons.2 ⟨(late_stays h).1 c hn, ih ((late_stays h).2 r)⟩

theorem calls_split_eof {s : St} (rs : List Resp) (pre post : List Call)
    (h : calls s rs = pre ++ Call.sinkEof :: post) : ∀ c ∈ post, c = Call.flush := by
  induction rs generalizing s pre with
  | nil => cases pre <;> cases h
  | cons r rs ih =>
    cases hn : next s with
    | none => rw [calls_cons, hn] at h; cases pre <;> cases h
    | some c =>
      rw [calls_cons, hn] at h
      cases pre with
      | nil =>
        cases h
        exact calls_after_eof rs (late_after_sinkEof r hn)
      | cons p pre => exact ih pre (List.cons.inj h).2

theorem drun_nil (d : Duplex) : drun d [] = d := rfl
theorem drun_append (d : Duplex) (evs evs' : List (Dir × Resp)) :
    drun d (evs ++ evs') = drun (drun d evs) evs' :=
  List.foldl_append
theorem drun_snoc (d : Duplex) (evs : List (Dir × Resp)) (e : Dir × Resp) :
    drun d (evs ++ [e]) = dstep (drun d evs) e.1 e.2 :=
  drun_append d evs [e]

theorem dstep_decided {d : Duplex} (who : Dir) (r : Resp) (h : d.outcome ≠ .running) : dstep d who r = d := by
  simp [dstep, h]

theorem drun_decided {d : Duplex} (evs : List (Dir × Resp)) (h : d.outcome ≠ .running) : drun d evs = d :=
  foldl_fixed (fun e => dstep_decided e.1 e.2 h) evs

structure DInv (d : Duplex) : Prop where
  ok : d.outcome = .ok → d.left.phase = .finished ∧ d.right.phase = .finished
  running : d.outcome = .running → d.left.phase ≠ .failed ∧ d.right.phase ≠ .failed
  left : Reachable d.left
  right : Reachable d.right

theorem dinv_init : DInv {} := ⟨nofun, fun _ => ⟨nofun, nofun⟩, ⟨[], rfl⟩, ⟨[], rfl⟩⟩

theorem dinv_step {d : Duplex} (who : Dir) (r : Resp) (h : DInv d) : DInv (dstep d who r) := by
  obtain ⟨h1, h2, hl, hr⟩ := h
  unfold dstep
  refine iteInduction (fun _ => ⟨h1, h2, hl, hr⟩) fun hrun => ?_
  have hrun : d.outcome = .running := by simpa using hrun
  have h2 := h2 hrun
  -- nothing to call, or the survivor timed out: neither side is fed
  refine iteInduction (fun _ => ⟨h1, fun _ => h2, hl, hr⟩) fun _ => ?_
  refine iteInduction (fun _ => ⟨nofun, nofun, hl, hr⟩) fun _ => ?_
  -- either side: the answer fails it, or both sides have finished, or the exchange goes on
  cases who <;> dsimp only
  · refine iteInduction (fun _ => ⟨nofun, nofun, hl.feed r, hr⟩) fun hnf => ?_
    refine iteInduction (fun hfin => ⟨fun _ => by simpa using hfin, nofun, hl.feed r, hr⟩) fun _ => ?_
    exact ⟨fun h => by simp [hrun] at h, fun _ => ⟨by simpa using hnf, h2.2⟩, hl.feed r, hr⟩
  · refine iteInduction (fun _ => ⟨nofun, nofun, hl, hr.feed r⟩) fun hnf => ?_
    refine iteInduction (fun hfin => ⟨fun _ => by simpa using hfin, nofun, hl, hr.feed r⟩) fun _ => ?_
    exact ⟨fun h => by simp [hrun] at h, fun _ => ⟨h2.1, by simpa using hnf⟩, hl, hr.feed r⟩

theorem dinv_run {d : Duplex} (evs : List (Dir × Resp)) (h : DInv d) : DInv (drun d evs) :=
  List.foldlRecOn evs _ h fun _ h e _ => dinv_step e.1 e.2 h

/-- well-formed timer state: a direction's iteration starts no earlier than its last activity -/
def Timer.WF (tm : Timer) : Prop := tm.laL ≤ tm.sL ∧ tm.laR ≤ tm.sR ∧ 0 < tm.T

/-- every event of the list is admissible at the point where it occurs -/
def Adm : Timer → List TEv → Prop
  | _, [] => True
  | tm, e :: es => admissible tm e = true ∧ Adm (tstep tm e) es

/-- the same as `Adm` (`adm_iff_admAll`) -/
def AdmAll : Timer → List TEv → Prop
  | _, [] => True
  | tm, e :: es => admissible tm e = true ∧ AdmAll (tstep tm e) es

theorem trun_append (tm : Timer) (es es' : List TEv) : trun tm (es ++ es') = trun (trun tm es) es' :=
  List.foldl_append

theorem tstep_expired {tm : Timer} (e : TEv) (h : tm.expired.isSome = true) : tstep tm e = tm := by
  simp [tstep, h]

theorem trun_expired {tm : Timer} (es : List TEv) (h : tm.expired.isSome = true) : trun tm es = tm :=
  foldl_fixed (fun e => tstep_expired e h) es

theorem open_of_trun_open {tm : Timer} {es : List TEv} (h : (trun tm es).expired = none) : tm.expired = none := by
  cases hx : tm.expired with
  | none => rfl
  | some x => rw [trun_expired es (by simp [hx]), hx] at h; cases h

/-- if closed at `c`, both marks were more than `T` before `c`; kept by every event, admissible or not -/
def Timer.Late (tm : Timer) : Prop := ∀ c, tm.expired = some c → tm.laL + tm.T < c ∧ tm.laR + tm.T < c

theorem late_step {tm : Timer} (e : TEv) (h : tm.Late) : (tstep tm e).Late := by
  unfold tstep
  refine iteInduction (fun _ => h) fun h0 => ?_
  have hopen : ∀ c, tm.expired ≠ some c := fun c hc => h0 (Option.isSome_iff_exists.2 ⟨c, hc⟩)
  rcases e with ⟨d, t⟩ | d
  · cases d <;> exact fun c hc => absurd hc (hopen c)
  · refine iteInduction (fun ht c hc => ?_) fun _ c hc => absurd hc (hopen c)
    cases hc
    simpa using ht

theorem late_run {tm : Timer} (es : List TEv) (h0 : tm.expired = none) : (trun tm es).Late :=
  List.foldlRecOn es tstep (fun c hc => by rw [h0] at hc; cases hc) fun _ h e _ => late_step e h

/-- `tm'` is `tm` some events later: the same `T`, neither mark earlier -/
structure Timer.Le (tm tm' : Timer) : Prop where
  T : tm'.T = tm.T
  laL : tm.laL ≤ tm'.laL
  laR : tm.laR ≤ tm'.laR

theorem Timer.Le.refl (tm : Timer) : tm.Le tm := ⟨rfl, Nat.le_refl _, Nat.le_refl _⟩

theorem Timer.Le.trans {a b c : Timer} (h : a.Le b) (h' : b.Le c) : a.Le c :=
  ⟨h'.T.trans h.T, Nat.le_trans h.laL h'.laL, Nat.le_trans h.laR h'.laR⟩

theorem Timer.Le.mark {a b : Timer} (h : a.Le b) (d : Dir) : lastActivity a d ≤ lastActivity b d := by
  cases d
  · exact h.laL
  · exact h.laR

theorem wf_le_step {tm : Timer} {e : TEv} (h : tm.WF) (ha : admissible tm e = true) :
    (tstep tm e).WF ∧ tm.Le (tstep tm e) := by
  obtain ⟨h1, h2, h3⟩ := h
  -- a firing moves no mark
  have fired {sL sR x} : tm.Le { tm with sL := sL, sR := sR, expired := x } := ⟨rfl, Nat.le_refl _, Nat.le_refl _⟩
  -- `iteInduction` finds its motive only where the `ite` occurs once
  let P (x : Timer) := x.WF ∧ tm.Le x
  show P _
  unfold tstep
  refine iteInduction (fun _ => ⟨⟨h1, h2, h3⟩, .refl tm⟩) fun _ => ?_
  rcases e with ⟨_ | _, t⟩ | ⟨_ | _⟩ <;> dsimp only
  · have ha : tm.sL ≤ t := of_decide_eq_true (Bool.and_eq_true_iff.1 ha).1
    exact ⟨⟨Nat.le_refl _, h2, h3⟩, rfl, Nat.le_trans h1 ha, Nat.le_refl _⟩
  · have ha : tm.sR ≤ t := of_decide_eq_true (Bool.and_eq_true_iff.1 ha).1
    exact ⟨⟨h1, Nat.le_refl _, h3⟩, rfl, Nat.le_refl _, Nat.le_trans h2 ha⟩
  · have ha : tm.laR ≤ tm.sL + tm.T := of_decide_eq_true ha
    exact iteInduction (fun _ => ⟨⟨h1, h2, h3⟩, fired⟩) fun _ =>
      ⟨⟨Nat.le_trans h1 (Nat.le_add_right _ _), ha, h3⟩, fired⟩
  · have ha : tm.laL ≤ tm.sR + tm.T := of_decide_eq_true ha
    exact iteInduction (fun _ => ⟨⟨h1, h2, h3⟩, fired⟩) fun _ =>
      ⟨⟨ha, Nat.le_trans h2 (Nat.le_add_right _ _), h3⟩, fired⟩

theorem trun_wf_le {tm : Timer} (es : List TEv) (h : tm.WF) (ha : Adm tm es) :
    (trun tm es).WF ∧ tm.Le (trun tm es) := by
  induction es generalizing tm with
  | nil => exact ⟨h, .refl tm⟩
  | cons e es ih =>
    have h1 := wf_le_step h ha.1
    have h2 := ih h1.1 ha.2
    exact ⟨h2.1, h1.2.trans h2.2⟩

theorem adm_append {tm : Timer} {es es' : List TEv} (ha : Adm tm (es ++ es')) :
    Adm tm es ∧ Adm (trun tm es) es' := by
  induction es generalizing tm with
  | nil => exact ⟨trivial, ha⟩
  | cons e es ih => exact ⟨⟨ha.1, (ih ha.2).1⟩, (ih ha.2).2⟩

theorem tstep_progress {tm : Timer} (d : Dir) (t : Nat) (h0 : tm.expired = none) :
    lastActivity (tstep tm (.progress d t)) d = t := by
  cases d <;> simp [tstep, h0, lastActivity]

theorem progress_le_mark {tm : Timer} (es : List TEv) (h : tm.WF) (ha : Adm tm es)
    (hopen : (trun tm es).expired = none) {d : Dir} {t : Nat} (hm : TEv.progress d t ∈ es) :
    t ≤ lastActivity (trun tm es) d := by
  induction es generalizing tm with
  | nil => cases hm
  | cons e es ih =>
    have h1 := (wf_le_step h ha.1).1
    rcases List.mem_cons.1 hm with rfl | hm
    · have ht := tstep_progress d t (open_of_trun_open (es := _ :: es) hopen)
      exact Nat.le_trans (Nat.le_of_eq ht.symm) ((trun_wf_le es h1 ha.2).2.mark d)
    · exact ih h1 ha.2 hopen hm

/-- one idle firing, at `m + T` with `m` the earlier of the two iteration starts: the tunnel is closed
if the last activity `a` was before `m`, otherwise both loops restart at `m + T` -/
theorem idle_step (tm : Timer) (h0 : tm.expired = none) {m a : Nat} (hm : min tm.sL tm.sR = m)
    (ha : max tm.laL tm.laR = a) :
    tstep tm (idleFire tm) =
      if a < m then { tm with expired := some (m + tm.T) }
      else { tm with sL := m + tm.T, sR := m + tm.T } := by
  subst hm ha
  unfold idleFire
  by_cases h : tm.sL ≤ tm.sR
  · simp [tstep, h0, h, Nat.min_eq_left h, Nat.max_lt]
  · simp [tstep, h0, h, Nat.min_eq_right (Nat.le_of_not_le h), Nat.max_lt]

end TT.Pipe
