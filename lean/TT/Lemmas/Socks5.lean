import TT.Model.Socks5
import TT.Lemmas.Bytes
/-!
For C15: what the encoders write, as the RFC readers see it; `connect` by the courses its dialogue can take
(`Dialogue`); and the reply reader as a composition of stream readers (`Streams`), of which truncation at any byte is a
property by construction.
-/
namespace TT.Socks
open TT TT.Bytes

theorem splitFirstColon_append (u t : Bytes) (h : 0x3a ∉ u) :
    splitFirstColon (u ++ t) = (splitFirstColon t).map fun p => (u ++ p.1, p.2) := by
  induction u with
  | nil => simp
  | cons c u ih =>
    simp only [List.mem_cons, not_or] at h
    have hc : ¬ (c = 58) := fun e => h.1 e.symm
    simp only [List.cons_append, splitFirstColon, beq_iff_eq, hc, if_false, ih h.2]
    cases splitFirstColon t <;> rfl

theorem splitFirstColon_eq_none {d : Bytes} (h : 0x3a ∉ d) : splitFirstColon d = none := by
  simpa [splitFirstColon] using splitFirstColon_append d [] h

def extTlv : ExtVal → Nat × Bytes
  | .domain s => (1, s)
  | .clientAddr ip => (2, ipBytes ip)
  | .userAgent s => (3, s)
  | .basicProxyAuth s => (4, s)
  | .sniAuth => (5, [])

def IpWF : Ip.Ip → Prop
  | .v4 a b c d => a < 256 ∧ b < 256 ∧ c < 256 ∧ d < 256
  | .v6 x => x.s0 < 65536 ∧ x.s1 < 65536 ∧ x.s2 < 65536 ∧ x.s3 < 65536 ∧ x.s4 < 65536 ∧ x.s5 < 65536 ∧ x.s6 < 65536 ∧ x.s7 < 65536

theorem ipBytes_v6_length (x : Ip.V6) : (ipBytes (.v6 x)).length = 16 := by
  simp [ipBytes, u16be]

/-- what the v6 branch of each parser here (`rfcParseRequest`, `readReply`, `udpUnwrap`) makes of the sixteen address
bytes, in the words of the model -/
def v6OfBytes (s : Bytes) : Ip.V6 :=
  let h (i : Nat) : Nat := s.getD (2 * i) 0 * 256 + s.getD (2 * i + 1) 0
  ⟨h 0, h 1, h 2, h 3, h 4, h 5, h 6, h 7⟩

/-- The eight big-endian halves of the sixteen address bytes are the segments again: what the v6 branch of the parsers
computes from the bytes `ipBytes` wrote, leaving what follows them.  With the `let`s of `rfcParseRequest` and
`udpUnwrap` in place of `v6OfBytes`, so that `simp` rewrites with it where it has unfolded one of them. -/
theorem read_ipBytes_v6 {x : Ip.V6} (hx : IpWF (.v6 x)) (rest : Bytes) :
    let b := ipBytes (.v6 x) ++ rest
    let s := b.take 16
    let h (i : Nat) : Nat := s.getD (2 * i) 0 * 256 + s.getD (2 * i + 1) 0
    (⟨h 0, h 1, h 2, h 3, h 4, h 5, h 6, h 7⟩ : Ip.V6) = x ∧ b.drop 16 = rest := by
  have h16 := ipBytes_v6_length x
  refine ⟨?_, List.drop_left' h16⟩
  rw [List.take_left' h16]
  obtain ⟨h0, h1, h2, h3, h4, h5, h6, h7⟩ := hx
  simp only [ipBytes, u16be, List.cons_append, List.nil_append, List.getD_cons_succ, List.getD_cons_zero,
    Nat.reduceMul, Nat.reduceAdd, u16_rt, h0, h1, h2, h3, h4, h5, h6, h7]

theorem encodeExtVal_eq (v : ExtVal) : encodeExtVal v =
    if (extTlv v).2.length > 65535 then none
    else some ((extTlv v).1 :: (u16be (extTlv v).2.length ++ (extTlv v).2)) := by
  cases v with
  | clientAddr ip => rw [if_neg (by cases ip <;> simp [extTlv, ipBytes])]; rfl
  | _ => rfl

theorem extTlv_type_ne_zero (v : ExtVal) : (extTlv v).1 ≠ 0 := by
  cases v <;> nofun

/-- more fuel than bytes is enough: each value takes at least three -/
theorem parse_ext_vals {vals : List ExtVal} {b : Bytes} (tail : Bytes) {fuel : Nat}
    (h : encodeExtVals vals = some b) (hf : b.length < fuel) :
    rfcParseExtFuel fuel (b ++ 0 :: 0 :: 0 :: tail) = some (vals.map extTlv, tail) := by
  fun_induction encodeExtVals vals generalizing b fuel with
  | case1 =>
    cases h
    obtain ⟨f, rfl⟩ := Nat.exists_eq_add_one.2 (Nat.zero_lt_of_lt hf)
    simp [rfcParseExtFuel]
  | case2 v vs a b' hb ha ih =>
    cases h
    rw [encodeExtVal_eq] at ha
    split at ha <;> cases ha
    next hl =>
    obtain ⟨f, rfl⟩ := Nat.exists_eq_add_one.2 (Nat.zero_lt_of_lt hf)
    simp only [List.length_append, List.length_cons, u16be_length] at hf
    simp [rfcParseExtFuel, extTlv_type_ne_zero, u16be, u16_rt (Nat.lt_of_not_ge hl), ih hb (by omega : b'.length < f)]
  | case3 => cases h

/-- the request message of the dialogue -/
def reqMsg (req : Request) : Option Bytes :=
  match req with
  | .connect a p => encodeRequest 1 a p
  | .udpAssociate l => encodeRequest 3 (.ip l.ip) l.port

/-- the request phase writes the request, if it encodes, and nothing else -/
theorem connectRequest_fst (sent : Bytes) (req : Request) (server : Bytes) :
    (connectRequest sent req server).1 = sent ++ (reqMsg req).getD [] := by
  cases req <;> simp only [connectRequest, reqMsg] <;> repeat' split
  all_goals simp [*]

theorem connectRequest_success {sent : Bytes} {req : Request} {server : Bytes} :
    ((connectRequest sent req server).2 = .tcp ∨ ∃ b, (connectRequest sent req server).2 = .udp b) →
    ∃ r rest', readReply server = .ok r rest' ∧ r.code = 0 := by
  -- The outcome is `tcp` or `udp` at two leaves, both behind a parsed reply whose code is not other than 0.
  -- `→` and not a bound `h`: `fun_cases` rewrites the call in the goal only, and `cases h` would fail.
  fun_cases connectRequest sent req server <;> intro h <;> simp at h
  all_goals exact ⟨_, _, ‹readReply server = _›, by simp_all⟩

theorem readU8_ok {b : Bytes} {a : Nat} {rest : Bytes} (h : readU8 b = .ok a rest) : b = a :: rest := by
  match b, h with
  | _ :: _, rfl => rfl

theorem readSelection_ok {server : Bytes} {m : Nat} {rest : Bytes} :
    readSelection server = .ok m rest → server = 5 :: m :: rest := by
  -- every leaf is an error, but the one behind both reads and both checks
  fun_cases readSelection server <;> intro h <;> cases h
  next v _ h1 hv _ h2 => rw [readU8_ok h1, readU8_ok h2]; simp_all

theorem readAuthResponse_ok {server rest : Bytes} :
    readAuthResponse server = .ok () rest → server = 1 :: 0 :: rest := by
  fun_cases readAuthResponse server <;> intro h <;> cases h
  next v _ h1 hv s hs h2 => rw [readU8_ok h1, readU8_ok h2]; simp_all

/-- The courses the dialogue in front of the request can take; `res` is the answer of `connect`.  Before the request
phase it can only stop, with an error, having written the selection message and perhaps the authentication message.  It
enters the request phase after `5 0` (no authentication), or after `5 m 1 0`, where `m` is the method it offered: the
authentication message has gone out and was accepted. -/
inductive Dialogue (auth : Option Auth) (req : Request) (server : Bytes) (res : Bytes × Outcome) : Prop
  | selectionFailed (e) (h : res = (encodeSelection auth, .error e))
  | noAuth (rest) (hs : server = 5 :: 0 :: rest) (h : res = connectRequest (encodeSelection auth) req rest)
  | authFailed (a msg) (ha : auth = some a) (hm : encodeAuth a = some msg) (e)
      (h : res = (encodeSelection auth ++ msg, .error e))
  | authed (a msg rest) (ha : auth = some a) (hm : encodeAuth a = some msg)
      (hs : server = 5 :: methodOf auth :: 1 :: 0 :: rest) (h0 : methodOf auth ≠ 0)
      (h : res = connectRequest (encodeSelection auth ++ msg) req rest)

theorem dialogue (auth : Option Auth) (req : Request) (server : Bytes) :
    Dialogue auth req server (connect auth req server) := by
  fun_cases connect auth req server with
  | case1 _ _ e => exact .selectionFailed e rfl
  | case2 _ _ m rest hs h0 =>
    obtain rfl := readSelection_ok hs
    exact .noAuth rest (by rw [eq_of_beq h0]) rfl
  | case3 | case4 | case7 => exact .selectionFailed _ rfl
  | case5 _ _ _ _ a msg ha e => exact .authFailed a msg rfl ha e rfl
  | case6 m rest hs h0 a msg ha _ rest' hr _ hm =>
    obtain rfl := readSelection_ok (hs : readSelection server = .ok m rest)
    obtain rfl := readAuthResponse_ok (hr : readAuthResponse rest = .ok _ rest')
    -- `hm` is the test that let the dialogue go on: `m` is 2 and so is the method offered, or both are 0x80
    have hm : m = methodOf (some a) := by simp at hm; omega
    exact .authed a msg rest' rfl ha (by rw [hm]) (by simpa [← hm] using h0) rfl

theorem connect_fst_cases (auth : Option Auth) (req : Request) (server : Bytes) :
    (connect auth req server).1 = encodeSelection auth ∨
    (∃ r, reqMsg req = some r ∧ (connect auth req server).1 = encodeSelection auth ++ r) ∨
    (∃ a m, auth = some a ∧ encodeAuth a = some m ∧
      ((connect auth req server).1 = encodeSelection auth ++ m ∨
       ∃ r, reqMsg req = some r ∧ (connect auth req server).1 = encodeSelection auth ++ m ++ r)) := by
  have hreq (sent rest) : (connectRequest sent req rest).1 = sent ∨
      ∃ r, reqMsg req = some r ∧ (connectRequest sent req rest).1 = sent ++ r := by
    rw [connectRequest_fst]
    cases reqMsg req with
    | none => exact .inl (List.append_nil _)
    | some r => exact .inr ⟨r, rfl, rfl⟩
  cases dialogue auth req server with
  | selectionFailed e h => rw [h]; exact .inl rfl
  | noAuth rest _ h => rw [h]; exact (hreq _ _).imp_right .inl
  | authFailed a m ha hm e h => rw [h]; exact .inr (.inr ⟨a, m, ha, hm, .inl rfl⟩)
  | authed a m rest ha hm _ _ h => rw [h]; exact .inr (.inr ⟨a, m, ha, hm, hreq _ _⟩)

/-- sequencing of two readers: the `?` of `SocksReader` -/
def andThen {α β : Type} (f : Bytes → Rd α) (g : α → Bytes → Rd β) (b : Bytes) : Rd β :=
  match f b with
  | .err e => .err e
  | .ok a b => g a b

/-- `f` reads from a stream: a success consumes a prefix `u` of the input and does not look behind it, and on less
than `u` the reader runs into the end of the input -/
def Streams {α : Type} (f : Bytes → Rd α) : Prop :=
  ∀ b a rest, f b = .ok a rest →
    ∃ u, b = u ++ rest ∧ (∀ rest', f (u ++ rest') = .ok a rest') ∧ ∀ n < u.length, f (u.take n) = .err .io

theorem Streams.truncated {α : Type} {f : Bytes → Rd α} (hf : Streams f) {b : Bytes} {a : α} {rest : Bytes}
    (h : f b = .ok a rest) {n : Nat} (hn : n < b.length - rest.length) : f (b.take n) = .err .io := by
  obtain ⟨u, rfl, -, ht⟩ := hf b a rest h
  simp only [List.length_append, Nat.add_sub_cancel] at hn
  rw [List.take_append_of_le_length (Nat.le_of_lt hn)]
  exact ht n hn

theorem Streams.ok {α : Type} (a : α) : Streams (Rd.ok a) := by
  intro b a' rest h
  cases h
  exact ⟨[], rfl, fun _ => rfl, fun n hn => absurd hn (Nat.not_lt_zero n)⟩

theorem Streams.err {α : Type} (e : RErr) : Streams (fun _ => .err e : Bytes → Rd α) := by
  intro b a rest h
  cases h

theorem Streams.ite {α : Type} {f g : Bytes → Rd α} {c : Prop} [Decidable c] (hf : Streams f) (hg : Streams g) :
    Streams fun b => if c then f b else g b := by
  split <;> assumption

theorem Streams.andThen {α β : Type} {f : Bytes → Rd α} {g : α → Bytes → Rd β}
    (hf : Streams f) (hg : ∀ a, Streams (g a)) : Streams (andThen f g) := by
  intro b c rest h
  unfold Socks.andThen at h
  split at h
  · cases h
  · rename_i a mid hfa
    obtain ⟨u, rfl, hu, hut⟩ := hf b a mid hfa
    obtain ⟨w, rfl, hw, hwt⟩ := hg a mid c rest h
    refine ⟨u ++ w, (List.append_assoc ..).symm, fun rest' => ?_, fun n hn => ?_⟩
    · simp only [Socks.andThen, List.append_assoc, hu, hw]
    · by_cases hnu : n < u.length
      · simp only [Socks.andThen, List.take_append_of_le_length (Nat.le_of_lt hnu), hut n hnu]
      · rw [List.length_append] at hn
        -- the first reader gets all of `u`, the second a proper prefix of `w`
        simp only [Socks.andThen, take_append_ge (Nat.le_of_not_lt hnu), hu]
        exact hwt _ (Nat.sub_lt_left_of_lt_add (Nat.le_of_not_lt hnu) hn)

theorem readU8_streams : Streams readU8 := by
  intro b a rest h
  match b, h with
  | _ :: _, rfl => exact ⟨[a], rfl, fun _ => rfl, fun n hn => by cases n <;> simp_all [readU8]⟩

theorem readExact_streams (k : Nat) : Streams (readExact k) := by
  intro b a rest h
  unfold readExact at h
  split at h
  · cases h
  · cases h
    have hk : (b.take k).length = k := List.length_take_of_le (Nat.le_of_not_lt ‹_›)
    refine ⟨b.take k, (List.take_append_drop k b).symm, fun rest' => by simp [readExact, hk], fun n hn => ?_⟩
    have : ((b.take k).take n).length < k := Nat.lt_of_le_of_lt (List.length_take_le n _) (hk ▸ hn)
    simp only [readExact, this, if_true]

/-- the `addr` block of `readReply`, as a reader -/
def readAddr (atyp : Nat) (b : Bytes) : Rd Addr :=
  if atyp == 1 then
    andThen (readExact 4) (fun x => .ok (.ip (.v4 (x.getD 0 0) (x.getD 1 0) (x.getD 2 0) (x.getD 3 0)))) b
  else if atyp == 4 then
    andThen (readExact 16) (fun s => .ok (.ip (.v6 (v6OfBytes s)))) b
  else if atyp == 3 then
    andThen readU8 (fun n => andThen (readExact n) fun s b =>
      if validUtf8 s then .ok (.domain s) b else .err .protocol) b
  else .err .protocol

-- The two sides differ only in which `match` function does each sequencing step; `rfl` sees through those
-- only with smart unfolding off.
set_option smartUnfolding false in
theorem readReply_eq (b : Bytes) : readReply b =
    andThen readU8 (fun v b => if v != 5 then .err .protocol else
    andThen readU8 (fun code b => if code > 8 then .err .protocol else
    andThen readU8 (fun rsv b => if rsv != 0 then .err .protocol else
    andThen readU8 (fun atyp => andThen (readAddr atyp) fun a => andThen (readExact 2) fun p =>
      .ok ⟨code, a, p.getD 0 0 * 256 + p.getD 1 0⟩) b) b) b) b := rfl

theorem readAddr_streams (atyp : Nat) : Streams (readAddr atyp) :=
  .ite ((readExact_streams 4).andThen fun _ => .ok _) <|
  .ite ((readExact_streams 16).andThen fun _ => .ok _) <|
  .ite (readU8_streams.andThen fun n => (readExact_streams n).andThen fun _ => .ite (.ok _) (.err _))
    (.err _)

theorem readReply_streams : Streams readReply := by
  rw [funext readReply_eq]
  exact readU8_streams.andThen fun _ => .ite (.err _) <|
    readU8_streams.andThen fun _ => .ite (.err _) <|
    readU8_streams.andThen fun _ => .ite (.err _) <|
    readU8_streams.andThen fun atyp => (readAddr_streams atyp).andThen fun _ =>
    (readExact_streams 2).andThen fun _ => .ok _

end TT.Socks
