import TT.Model.Services
/-!
For C18: what `select` has checked when it picks a channel, the steps from decimal digits to `digitsVal` / `parseU32`
(C18 puts them together: what a client writes for `N` is read back as `N`), prefix and suffix stripping on the paths of
the speed test, and membership in `insertHeader`.
-/
namespace TT.Services

/-- a channel other than the tunnel is selected only when its own check passed -/
theorem select_checked (cfg : Cfg) (proto : Proto) (r : ReqView) :
    (select cfg proto r = .speedtest → checkSpeedtest cfg r = true) ∧
    (select cfg proto r = .reverseProxy → checkReverseProxy cfg proto r = true) := by
  fun_cases select cfg proto r
  case case2 hs => exact ⟨fun _ => hs, nofun⟩
  case case3 hr => exact ⟨nofun, fun _ => hr⟩
  all_goals exact ⟨nofun, nofun⟩

theorem digitsVal_snoc (a : List Char) (c : Char) :
    digitsVal (a ++ [c]) =
      (digitsVal a).bind (fun v => if '0' ≤ c ∧ c ≤ '9' then some (v * 10 + (c.toNat - 48)) else none) := by
  induction a with
  | nil =>
    simp only [List.nil_append, digitsVal]
    split <;> simp
  | cons x a ih =>
    simp only [List.cons_append, digitsVal, ih, List.length_append, List.length_cons, List.length_nil]
    by_cases hx : '0' ≤ x ∧ x ≤ '9'
    · simp only [hx, and_self, if_true]
      cases h : digitsVal a with
      | none => simp
      | some v =>
        simp only [Option.bind_some]
        by_cases hc : '0' ≤ c ∧ c ≤ '9'
        · simp only [hc, and_self, if_true]
          congr 1
          rw [Nat.pow_succ]
          simp [Nat.add_mul, Nat.mul_assoc, Nat.add_assoc]
        · simp [hc]
    · simp [hx]

theorem digit_char {d : Nat} (hd : d < 10) :
    (Char.ofNat (48 + d)).toNat = 48 + d ∧ '0' ≤ Char.ofNat (48 + d) ∧ Char.ofNat (48 + d) ≤ '9' := by
  have : ∀ d : Fin 10, (Char.ofNat (48 + d.val)).toNat = 48 + d.val ∧ '0' ≤ Char.ofNat (48 + d.val) ∧ Char.ofNat (48 + d.val) ≤ '9' := by
    decide
  exact this ⟨d, hd⟩

theorem speedSegment_eq : speedSegment = ['s','p','e','e','d'] := by decide

theorem mbbin_eq : "mb.bin".toList = ['m','b','.','b','i','n'] := by decide

theorem stripPrefix_slash (x : List Char) : stripPrefix ['/'] ('/' :: x) = some x := by
  simp [stripPrefix]

theorem stripPrefix_speed_digit {c : Char} (rest : List Char) (hc : '0' ≤ c ∧ c ≤ '9') :
    stripPrefix speedSegment (c :: rest) = none := by
  have : 's' ≠ c := by
    rintro rfl
    revert hc; decide
  simp [stripPrefix, speedSegment_eq, this]

theorem stripSuffix_append (suf a : List Char) : stripSuffix suf (a ++ suf) = some a := by
  simp [stripSuffix]

theorem parseU32_digits {c : Char} {rest : List Char} {v : Nat} (hc : '0' ≤ c ∧ c ≤ '9')
    (hv : digitsVal (c :: rest) = some v) :
    parseU32 (c :: rest) = if v < 4294967296 then some v else none := by
  have : c ≠ '+' := by
    rintro rfl
    revert hc; decide
  unfold parseU32
  split
  · next h => exact absurd (List.cons.inj h).1 this
  · simp [hv]

theorem chunkSize_pos : 0 < chunkSize := by decide

theorem mem_insertHeader_iff {hs : List (String × String)} {n v : String} {x : String × String} :
    x ∈ insertHeader hs n v ↔ x = (n, v) ∨ (x ∈ hs ∧ x.1 ≠ n) := by
  unfold insertHeader
  split
  · next hany =>
    -- every entry of that name is replaced, and there is one
    obtain ⟨y, hy, hyn⟩ := List.any_eq_true.1 hany
    rw [List.mem_map]
    constructor
    · rintro ⟨h, hh, rfl⟩
      split
      · exact .inl rfl
      · next hne => exact .inr ⟨hh, fun e => hne (beq_iff_eq.2 e)⟩
    · rintro (rfl | ⟨hx, hne⟩)
      · exact ⟨y, hy, if_pos hyn⟩
      · exact ⟨x, hx, if_neg fun e => hne (eq_of_beq e)⟩
  · next hany =>
    -- no entry of that name: the new one is appended, and the side condition on the others is free
    rw [List.mem_append, List.mem_singleton, or_comm]
    exact or_congr_right (iff_self_and.2 fun hx e => hany (List.any_eq_true.2 ⟨x, hx, beq_iff_eq.2 e⟩))

theorem upload_slash : stripPrefix ['/'] "/upload.html".toList = some "upload.html".toList := by decide

theorem upload_speed : stripPrefix speedSegment "upload.html".toList = none := by decide

end TT.Services
