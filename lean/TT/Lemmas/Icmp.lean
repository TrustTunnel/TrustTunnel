import TT.Model.Icmp
import TT.Lemmas.Bytes
/-! Lemmas for C11 (and, for the 16-byte addresses, C06), in the order of the sections of `TT/Model/Icmp.lean`. -/
namespace TT.Icmp
open TT TT.Bytes

/-! ### RFC 1071 checksum: the fold in closed form -/

theorem fold16_zero : fold16 0 = 0 := by rw [fold16, dif_pos (by decide)]

/-- the end-around-carry fold in closed form: a positive sum folds to its residue modulo 0xFFFF taken
in `1 ..= 0xFFFF` -/
theorem fold16_succ (m : Nat) : fold16 (m + 1) = m % 65535 + 1 := by
  induction m using Nat.strongRecOn with
  | _ m ih =>
    rw [fold16]
    by_cases h : m + 1 < 65536
    · rw [dif_pos h, Nat.mod_eq_of_lt (by omega)]
    · rw [dif_neg h]
      -- `m + 1 = 65536 * q + r` folds to `q + r`, which differs from it by a multiple of 0xFFFF
      have hd := Nat.div_add_mod (m + 1) 65536
      have hr := Nat.mod_lt (m + 1) (by decide : 65536 > 0)
      generalize (m + 1) / 65536 = q at hd ⊢
      generalize (m + 1) % 65536 = r at hd hr ⊢
      cases q with
      | zero => omega
      | succ q =>
        rw [Nat.add_right_comm, ih (q + r) (by omega), show m = q + r + 65535 * (q + 1) by omega,
          Nat.add_mul_mod_self_left]

/-- what makes the checksum verify: a sum plus the complement of its fold folds to 0xFFFF -/
theorem fold16_add_compl (s : Nat) : fold16 (s + (65535 - fold16 s)) = 65535 := by
  cases s with
  | zero => rw [fold16_zero]; exact fold16_succ 65534
  | succ m =>
    have hr := Nat.mod_lt m (by decide : 65535 > 0)
    have hd := Nat.div_add_mod m 65535
    rw [fold16_succ, show m + 1 + (65535 - (m % 65535 + 1)) = 65534 + 65535 * (m / 65535) + 1 by omega,
      fold16_succ, Nat.add_mul_mod_self_left]

/-- a word of two bytes adds at most 0xFFFF, an odd last byte at most 0xFF00 -/
theorem sumWords_le {bs : Bytes} (hw : ∀ x ∈ bs, x < 256) :
    2 * sumWords bs ≤ 65535 * (bs.length + 1) := by
  fun_induction sumWords bs with
  | case1 => exact Nat.zero_le _
  | case2 a =>
    have := hw a (List.mem_singleton_self a)
    rw [List.length_singleton]
    omega
  | case3 a b rest ih =>
    simp only [List.forall_mem_cons] at hw
    have := ih hw.2.2
    rw [List.length_cons, List.length_cons]
    omega

theorem sumWords32_eq (bs : Bytes) (acc : Nat) (h : acc < 4294967296) :
    sumWords32 bs acc = (acc + sumWords bs) % 4294967296 := by
  fun_induction sumWords32 bs acc with
  | case1 acc => exact (Nat.mod_eq_of_lt h).symm
  | case2 a acc => rfl
  | case3 a b rest acc ih =>
    rw [ih (Nat.mod_lt _ (by decide)), Nat.mod_add_mod, Nat.add_assoc, Nat.mod_add_mod]
    simp only [sumWords, Nat.add_assoc]

/-- writing `c` into a zero 16-bit field at an even offset adds `c` to the sum -/
theorem sumWords_field (a b c : Nat) (rest : Bytes) (hc : c < 65536) :
    sumWords (a :: b :: (u16be c ++ rest)) = sumWords (a :: b :: 0 :: 0 :: rest) + c := by
  show a * 256 + b + (c / 256 % 256 * 256 + c % 256 + sumWords rest)
    = a * 256 + b + (0 * 256 + 0 + sumWords rest) + c
  rw [u16_rt hc]; omega

/-! ### IP header skipping and message deserialisation: no parser panics, by following its reads, each
behind the length check that guards it -/

/-- no branch of an `if` panics: used once per link of the `if`-chains that dispatch on the message type
(`deserializeV4` / `deserializeV6`, in C11) -/
theorem ite_ne {α : Type} {c : Prop} [Decidable c] {a b x : α} (ha : a ≠ x) (hb : b ≠ x) :
    (if c then a else b) ≠ x := by
  split <;> assumption

/-- `ihl`, the header length the first byte announces, is a parameter so that a caller names its value and
owes the equation -/
theorem skipIpv4Header_eq (p : Bytes) (ihl : Nat) (hl : ihl = p[0]?.getD 0 % 16 * 4 % 256) :
    skipIpv4Header p = .ok (
      if p.length < 20 ∨ ihl < 20 ∨ p.length < ihl then none else some (p[9]?.getD 0, p.drop ihl)) := by
  unfold skipIpv4Header
  by_cases h : p.length < 20
  · rw [if_pos h, if_pos (.inl h)]
  · have h0 : getU8 p = .ok (p[0]?.getD 0, p.drop 1) := getU8_drop p 0 (by omega)
    simp only [if_neg h, h0, ← hl, List.length_drop]
    clear hl h0
    by_cases hc : ihl < 20 ∨ p.length < ihl
    · rw [if_pos (by simp; omega), if_pos (.inr hc)]
    · rw [if_neg (by simp; omega), if_neg (by omega)]
      simp only [advance_drop p 1 8 (by omega), getU8_drop p 9 (by omega),
        advance_drop p (9 + 1) (10 + (ihl - 20)) (by omega)]
      rw [show 9 + 1 + (10 + (ihl - 20)) = ihl by omega]

/-- a header without options (`hdr` = its 20 bytes) is skipped and its protocol field returned -/
theorem skipIpv4_plain {hdr : Bytes} {p : Nat} (hh : hdr.length = 20) (h0 : hdr[0]? = some 0x45)
    (hp : hdr[9]? = some p) (q : Bytes) : skipIpv4Header (hdr ++ q) = .ok (some (p, q)) := by
  rw [skipIpv4Header_eq _ 20, List.getElem?_append_left (by omega), hp,
    if_neg (by rw [List.length_append]; omega), ← hh, List.drop_left]
  · rfl
  · rw [List.getElem?_append_left (by omega), h0]; rfl

theorem skipIpv6Ext_no_panic (fuel proto : Nat) (p : Bytes) : (skipIpv6Ext fuel proto p).isOk = true := by
  induction fuel generalizing proto p with
  | zero => rfl
  | succ fuel ih =>
    unfold skipIpv6Ext
    by_cases h1 : (proto == 0 || proto == 43 || proto == 60) = true
    · rw [if_pos h1]
      by_cases hl : p.length < 2
      · rw [if_pos hl]; rfl
      · obtain ⟨_, q, e1, h⟩ := reads_ge getU8_ok (n := 1) (Nat.le_of_not_lt hl)
        obtain ⟨n, q, e2, h⟩ := reads_ge getU8_ok (n := 0) h
        simp only [if_neg hl, e1, e2]
        by_cases hl2 : q.length < (n + 1) * 8 - 2
        · rw [if_pos hl2]; rfl
        · rw [if_neg hl2, advance_ok _ _ (Nat.le_of_not_lt hl2)]
          exact ih _ _
    · rw [if_neg h1]
      by_cases h2 : (proto == 44) = true
      · rw [if_pos h2]
        by_cases hl : p.length < 8
        · rw [if_pos hl]; rfl
        · obtain ⟨_, q, e, h⟩ := reads_ge getU8_ok (n := 7) (Nat.le_of_not_lt hl)
          simp only [if_neg hl, e, advance_ok 7 q h]
          exact ih _ _
      · rw [if_neg h2]; rfl

theorem afterType_cons (c k1 k2 : Nat) (rest : Bytes) (k : Nat → Bytes → Deser) :
    afterType (c :: k1 :: k2 :: rest) k = k c rest := rfl

theorem afterType_ne_panic (p : Bytes) (k : Nat → Bytes → Deser) (n : Nat) (h : n + 3 ≤ p.length)
    (hk : ∀ c q, n ≤ q.length → k c q ≠ .panic) : afterType p k ≠ .panic := by
  obtain ⟨c, q, e, h⟩ := reads_ge getU8_ok (n := n + 2) h
  simp only [afterType, e, splitOff_ok 2 q (Nat.le_of_add_left_le h)]
  exact hk c _ (List.length_drop ▸ Nat.le_sub_of_add_le h)

theorem parseEcho_ne_panic (t c : Nat) (p : Bytes) (h : 4 ≤ p.length) : parseEcho t c p ≠ .panic := by
  obtain ⟨_, p, e1, h⟩ := reads_ge getU16_ok h
  obtain ⟨_, p, e2, h⟩ := reads_ge getU16_ok h
  simp only [parseEcho, e1, e2]
  nofun

theorem parseEcho_put (t c : Nat) {id seq : Nat} (hid : id < 65536) (hseq : seq < 65536) (data : Bytes) :
    parseEcho t c (u16be id ++ u16be seq ++ data) = .ok (.echo t ⟨c, id, seq, data⟩) := by
  rw [parseEcho, List.append_assoc, getU16_u16be hid]; dsimp only
  rw [getU16_u16be hseq]

theorem parseErr_ne_panic (t : Nat) (f : Nat → Bool) (c : Nat) (p : Bytes) (h : 4 ≤ p.length) :
    parseErr t f c p ≠ .panic := by
  unfold parseErr
  rw [splitOff_ok 4 p h]
  split <;> nofun

theorem parseTimestamp_ne_panic (t c : Nat) (p : Bytes) (h : 16 ≤ p.length) : parseTimestamp t c p ≠ .panic := by
  obtain ⟨_, p, e1, h⟩ := reads_ge getU16_ok h
  obtain ⟨_, p, e2, h⟩ := reads_ge getU16_ok h
  obtain ⟨_, p, e3, h⟩ := reads_ge getU32_ok h
  obtain ⟨_, p, e4, h⟩ := reads_ge getU32_ok h
  obtain ⟨_, p, e5, h⟩ := reads_ge getU32_ok h
  simp only [parseTimestamp, e1, e2, e3, e4, e5]
  nofun

theorem parseInformation_ne_panic (t c : Nat) (p : Bytes) (h : 4 ≤ p.length) : parseInformation t c p ≠ .panic := by
  obtain ⟨_, p, e1, h⟩ := reads_ge getU16_ok h
  obtain ⟨_, p, e2, h⟩ := reads_ge getU16_ok h
  simp only [parseInformation, e1, e2]
  nofun

/-- `deserialize_packet!` with `LowerBound(N)`: the parser gets at least `N - 4` bytes -/
theorem lower_ne_panic (p : Bytes) (k : Nat → Bytes → Deser) (N n : Nat) (hN : n + 4 ≤ N)
    (hk : ∀ c q, n ≤ q.length → k c q ≠ .panic) :
    (if 1 + p.length < N then Deser.rejected else afterType p k) ≠ .panic := by
  split
  · nofun
  · exact afterType_ne_panic p k n (by omega) hk

/-- `deserialize_packet!` with `Exact(N)` -/
theorem exact_ne_panic (p : Bytes) (k : Nat → Bytes → Deser) (N n : Nat) (hN : n + 4 ≤ N)
    (hk : ∀ c q, n ≤ q.length → k c q ≠ .panic) :
    (if N != 1 + p.length then Deser.rejected else afterType p k) ≠ .panic := by
  split
  · nofun
  · next h => exact afterType_ne_panic p k n (by simp at h; omega) hk

theorem quotedEcho_ne_panic (s : Res (Option (Nat × Bytes))) (hs : s.isOk = true) (wp wt : Nat) :
    quotedEcho s wp wt ≠ .panic := by
  unfold quotedEcho
  match s, hs with
  | .ok none, _ => nofun
  | .ok (some (proto, [])), _ => nofun
  | .ok (some (proto, t :: p)), _ =>
    dsimp only
    refine ite_ne nofun ?_
    by_cases h : 1 + p.length < 8
    · rw [if_pos h]; nofun
    · rw [if_neg h]
      have := afterType_ne_panic p (parseEcho wt) 4 (by omega) (parseEcho_ne_panic wt)
      split
      · nofun
      · exact absurd ‹_› this
      · nofun

/-- a quoted packet of the wanted protocol that is an echo request of the wanted type designates it -/
theorem quotedEcho_echo (wp wt c k1 k2 : Nat) {id seq : Nat} (hid : id < 65536) (hseq : seq < 65536)
    (data : Bytes) :
    quotedEcho (.ok (some (wp, wt :: c :: k1 :: k2 :: (u16be id ++ u16be seq ++ data)))) wp wt
      = .some ⟨c, id, seq, data⟩ := by
  unfold quotedEcho; dsimp only
  rw [if_neg (by simp), if_neg (by simp only [List.length_cons, List.length_append, u16be_length]; omega),
    afterType_cons, parseEcho_put wt c hid hseq]

/-! ### fixed-size addresses: `getFixedIp` reads back what `putFixedIp` wrote -/

theorem getFixedIp_ok (p : Bytes) (h : 16 ≤ p.length) : ∃ a, getFixedIp p = .ok (a, p.drop 16) := by
  simp [getFixedIp, splitTo, h]

/-- address well-formedness: octets/hextets in range and, for IPv6, not in the range that the
16-byte form reserves for zero-padded IPv4 (`Udp.SockWF` and `Request.WF` of C11 write the same `match` out) -/
def IpWF (ip : Ip.Ip) : Prop :=
  match ip with
  | .v4 a b c d => a < 256 ∧ b < 256 ∧ c < 256 ∧ d < 256
  | .v6 x => x.s0 < 65536 ∧ x.s1 < 65536 ∧ x.s2 < 65536 ∧ x.s3 < 65536 ∧ x.s4 < 65536 ∧ x.s5 < 65536 ∧
      x.s6 < 65536 ∧ x.s7 < 65536 ∧ ¬ (x.s0 = 0 ∧ x.s1 = 0 ∧ x.s2 = 0 ∧ x.s3 = 0 ∧ x.s4 = 0 ∧ x.s5 = 0)

theorem putFixedIp_length (ip : Ip.Ip) : (putFixedIp ip).length = 16 := by
  cases ip with
  | v4 => rfl
  | v6 x => simp only [putFixedIp, List.length_append, u16be_length]

theorem fixedIpOf_put {ip : Ip.Ip} (h : IpWF ip) : fixedIpOf (putFixedIp ip) = ip := by
  cases ip with
  | v4 a b c d => rfl
  | v6 x =>
    obtain ⟨h0, h1, h2, h3, h4, h5, h6, h7, hz⟩ := h
    -- on sixteen explicit bytes `fixedIpOf` computes to its `if` (unfolding it by its equations is slow)
    refine (if_neg ?_).trans ?_
    · -- the first twelve bytes are not all zero, since the first six hextets are not
      simp only [Bool.and_eq_true, beq_iff_eq]
      exact fun ⟨⟨⟨⟨⟨⟨⟨⟨⟨⟨⟨a0, a1⟩, b0⟩, b1⟩, c0⟩, c1⟩, d0⟩, d1⟩, e0⟩, e1⟩, f0⟩, f1⟩ =>
        hz ⟨u16_zero a0 a1 h0, u16_zero b0 b1 h1, u16_zero c0 c1 h2, u16_zero d0 d1 h3,
          u16_zero e0 e1 h4, u16_zero f0 f1 h5⟩
    · rw [u16_rt h0, u16_rt h1, u16_rt h2, u16_rt h3, u16_rt h4, u16_rt h5, u16_rt h6, u16_rt h7]

theorem getFixedIp_put {ip : Ip.Ip} (h : IpWF ip) (r : Bytes) :
    getFixedIp (putFixedIp ip ++ r) = .ok (ip, r) := by
  have := splitTo_left (putFixedIp ip) r
  rw [putFixedIp_length] at this
  simp only [getFixedIp, this, fixedIpOf_put h]

/-! ### 7.3 request decoder: the buffer is transparent, a record is cut from `buffer ++ chunk` -/

theorem parseRequest_ok (raw : Bytes) (h : 23 ≤ raw.length) : ∃ r, parseRequest raw = .ok r := by
  obtain ⟨_, p, e1, h⟩ := reads_ge getU16_ok h
  obtain ⟨_, p, e2, h⟩ := reads_ge getFixedIp_ok h
  obtain ⟨_, p, e3, h⟩ := reads_ge getU16_ok h
  obtain ⟨_, p, e4, h⟩ := reads_ge getU8_ok h
  obtain ⟨_, p, e5, h⟩ := reads_ge getU16_ok h
  simp only [parseRequest, e1, e2, e3, e4, e5]
  exact ⟨_, rfl⟩

theorem onMessageChunk_eq {buffer chunk : Bytes} (hb : buffer.length < reqSize) :
    onMessageChunk buffer chunk =
      if (buffer ++ chunk).length < reqSize then .wantMore (buffer ++ chunk)
      else .complete ((buffer ++ chunk).take reqSize) ((buffer ++ chunk).drop reqSize) := by
  unfold onMessageChunk
  by_cases hc : (!buffer.isEmpty || decide (buffer.length + chunk.length < reqSize)) = true
  · -- the general branch moves `(buffer ++ chunk).take reqSize` into the buffer
    simp only [if_pos hc, fill_take (Nat.le_of_lt hb), fill_drop (Nat.le_of_lt hb)]
    rw [if_neg (by rw [decide_eq_true (List.length_take_le ..)]; nofun)]
    exact filled_cases _ reqSize ChunkOut.panic .wantMore .complete
  · obtain ⟨rfl, hl⟩ : buffer = [] ∧ reqSize ≤ buffer.length + chunk.length := by simpa using hc
    rw [if_neg hc, List.nil_append, if_neg (by simpa using hl)]

theorem specDecode_short (F : Nat) (s : Bytes) (h : s.length < reqSize) : specDecode F s = [] := by
  cases F with
  | zero => rfl
  | succ F => exact if_pos h

theorem specDecode_long (F : Nat) (s : Bytes) (r : Request) (h : reqSize ≤ s.length)
    (hr : parseRequest (s.take reqSize) = .ok r) :
    specDecode (F + 1) s = r :: specDecode F (s.drop reqSize) := by
  rw [specDecode, if_neg (Nat.not_lt_of_le h), hr]

theorem specDecode_append (F : Nat) {raw : Bytes} (rest : Bytes) {r : Request} (h : raw.length = reqSize)
    (hr : parseRequest raw = .ok r) : specDecode (F + 1) (raw ++ rest) = r :: specDecode F rest := by
  rw [specDecode_long F _ r (by rw [List.length_append, h]; omega) (by rwa [List.take_left' h]), List.drop_left' h]

/-- dropping all complete records of length `n`, one record at a time -/
theorem drop_records {α : Type} (n : Nat) {s : List α} (hn : 0 < n) (h : n ≤ s.length) :
    s.drop (n * (s.length / n)) = (s.drop n).drop (n * ((s.drop n).length / n)) := by
  rw [List.drop_drop, List.length_drop, Nat.div_eq_sub_div hn h, Nat.mul_succ, Nat.add_comm]

/-- the glue decodes `s`, the bytes still to come (buffer, then chunks): a step either takes a chunk into
the buffer and leaves `s` as it is, or emits the record `s.take reqSize` and goes on with `s.drop reqSize` -/
theorem decodeStream_eq {fuel : Nat} (buffer : Bytes) (chunks : List Bytes) (acc : List Request) (F : Nat)
    (s : Bytes) (hb : buffer.length < reqSize) (hs : buffer ++ chunks.flatten = s)
    (hf : chunks.length + s.length < fuel) (hF : s.length / reqSize ≤ F) :
    decodeStream fuel buffer chunks acc =
      some (acc.reverse ++ specDecode F s, s.drop (reqSize * (s.length / reqSize))) := by
  induction fuel generalizing buffer chunks acc F s with
  | zero => cases hf
  | succ fuel ih =>
    cases chunks with
    | nil =>
      rw [List.flatten_nil, List.append_nil] at hs
      subst hs
      rw [decodeStream, specDecode_short _ _ hb, Nat.div_eq_of_lt hb, List.append_nil]
      rfl
    | cons chunk rest =>
      rw [List.flatten_cons, ← List.append_assoc] at hs
      rw [List.length_cons] at hf
      rw [decodeStream, onMessageChunk_eq hb]
      by_cases hlt : (buffer ++ chunk).length < reqSize
      · rw [if_pos hlt]
        exact ih _ _ _ F s hlt hs (by omega) hF
      · have hle : reqSize ≤ (buffer ++ chunk).length := Nat.le_of_not_lt hlt
        have hl : reqSize ≤ s.length := by rw [← hs, List.length_append]; omega
        obtain ⟨r, hr⟩ := parseRequest_ok (s.take reqSize) (by rw [List.length_take_of_le hl]; decide)
        have hq := requeue ((buffer ++ chunk).drop reqSize) rest
        rw [Nat.div_eq_sub_div (by decide) hl] at hF
        cases F with
        | zero => cases hF
        | succ F =>
          rw [if_neg hlt]; dsimp only
          rw [← List.take_append_of_le_length hle, hs, hr]; dsimp only
          rw [ih [] _ (r :: acc) F (s.drop reqSize) (by decide)
            (by rw [hq.1, ← hs, List.drop_append_of_le_length hle]; rfl)
            (by rw [List.length_drop]; omega)
            (by rw [List.length_drop]; exact Nat.le_of_succ_le_succ hF),
            specDecode_long _ s r hl hr, drop_records reqSize (by decide) hl, List.reverse_cons,
            List.append_assoc]
          rfl

/-! ### waiter table: what each operation does to waiters and deadlines -/

/-- what happens to a table: an echo request sent for a client, a message received that designates the
request `req` (`full`: the client's queue is full), a timer sweep -/
inductive Op where
  | send (client : Nat) (e : Echo) (now : Nat)
  | recv (req : Echo) (full : Bool)
  | tick (now : Nat)

def Table.step (timeout : Nat) (t : Table) : Op → Table
  | .send c e now => t.send c e now timeout
  | .recv req full => (t.recv req full).1
  | .tick now => t.tick now

def countSends : List Op → Nat
  | [] => 0
  | .send .. :: rest => 1 + countSends rest
  | _ :: rest => countSends rest

theorem echoKeyEq_refl (e : Echo) : echoKeyEq e e = true := by
  simp [echoKeyEq]

theorem send_waiters_length (t : Table) (c : Nat) (e : Echo) (now timeout : Nat) :
    (t.send c e now timeout).waiters.length ≤ t.waiters.length + 1 := by
  unfold Table.send
  dsimp only
  split
  · exact Nat.le_succ_of_le (Nat.le_of_eq (List.length_map _))
  · exact Nat.le_of_eq List.length_append

theorem mem_send_waiters {t : Table} {c : Nat} {e : Echo} {now timeout : Nat} {w : Waiter}
    (hw : w ∈ (t.send c e now timeout).waiters) :
    w ∈ t.waiters ∨ (w.deadline = now + timeout ∧ echoKeyEq w.key e = true) := by
  unfold Table.send at hw
  dsimp only at hw
  split at hw
  · obtain ⟨w0, hw0, rfl⟩ := List.mem_map.1 hw
    by_cases hk : echoKeyEq w0.key e = true
    · rw [if_pos hk]; exact .inr ⟨rfl, hk⟩
    · rw [if_neg hk]; exact .inl hw0
  · rw [List.mem_append, List.mem_singleton] at hw
    exact hw.imp_right fun h => by subst h; exact ⟨rfl, echoKeyEq_refl e⟩

theorem recv_only_drops_waiters (t : Table) (req : Echo) (full : Bool) :
    (t.recv req full).1.deadlines = t.deadlines ∧ (t.recv req full).1.waiters.Sublist t.waiters := by
  unfold Table.recv
  split
  · exact ⟨rfl, List.Sublist.refl _⟩
  · cases full
    · exact ⟨rfl, List.Sublist.refl _⟩
    · exact ⟨rfl, List.filter_sublist⟩

theorem tick_waiter {t : Table} {now : Nat} {w : Waiter} (hw : w ∈ (t.tick now).waiters) :
    w ∈ t.waiters ∧ ∀ d ∈ t.deadlines, echoKeyEq w.key d.2 = true → now < d.1 := by
  obtain ⟨hw1, hw2⟩ := List.mem_filter.mp hw
  refine ⟨hw1, fun d hd hk => Nat.lt_of_not_le fun hdn => ?_⟩
  rw [Bool.not_eq_true', List.any_eq_false] at hw2
  exact hw2 d (List.mem_filter.mpr ⟨hd, decide_eq_true hdn⟩) hk

theorem waiters_foldl_le (timeout : Nat) (ops : List Op) (t : Table) :
    (ops.foldl (Table.step timeout) t).waiters.length ≤ t.waiters.length + countSends ops := by
  induction ops generalizing t with
  | nil => exact Nat.le_refl _
  | cons op ops ih =>
    refine Nat.le_trans (ih (t.step timeout op)) ?_
    cases op with
    | send c e now =>
      have := send_waiters_length t c e now timeout
      show (t.send c e now timeout).waiters.length + countSends ops
        ≤ t.waiters.length + (1 + countSends ops)
      omega
    | recv req full => exact Nat.add_le_add_right (recv_only_drops_waiters t req full).2.length_le _
    | tick now => exact Nat.add_le_add_right (List.length_filter_le _ _) _

end TT.Icmp
