/-!
Lists used as tables (they stand for a `HashMap`): the entries `α` carry a key `key : α → κ`, at most one
entry per key (`(l.map key).Nodup`). Lookup is `find? (key · == m)`, removal `filter (key · != k)`, insertion
of an absent key `cons` or `++ [a]`, insert-or-replace removal followed by `++ [a]`, update in place a `map`
that keeps keys, update-or-drop a `filterMap`. What the tables of C02, C07 and C14 need is here, once.
-/
namespace TT.Keyed
variable {α κ : Type} (key : α → κ)

theorem nodup_filter {l : List α} (p : α → Bool) (h : (l.map key).Nodup) : ((l.filter p).map key).Nodup :=
  h.sublist (List.filter_sublist.map key)

theorem nodup_filterMap {l : List α} (f : α → Option α) (hk : ∀ a a', f a = some a' → key a' = key a)
    (h : (l.map key).Nodup) : ((l.filterMap f).map key).Nodup :=
  -- `f` keeps keys, so what it keeps of two entries with different keys has different keys
  List.pairwise_map.2 <| (List.pairwise_map.1 h).filterMap f fun a a' hne b hb b' hb' => by
    rw [hk a b hb, hk a' b' hb']; exact hne

theorem map_key_map {g : α → α} {l : List α} (hk : ∀ x ∈ l, key (g x) = key x) :
    (l.map g).map key = l.map key := by
  rw [List.map_map]
  exact List.map_congr_left hk

theorem mem_map_of_key_ne {g : α → α} {k : κ} (hk : ∀ x, key (g x) = key x) (hid : ∀ x, key x ≠ k → g x = x)
    {l : List α} {x : α} (hx : key x ≠ k) : x ∈ l.map g ↔ x ∈ l := by
  rw [List.mem_map]
  constructor
  · rintro ⟨y, hy, rfl⟩
    rwa [hid y (hk y ▸ hx)]
  · exact fun h => ⟨x, h, hid x hx⟩

theorem nodup_snoc {l : List α} {a : α} (h : (l.map key).Nodup) (ha : ∀ x ∈ l, key x ≠ key a) :
    ((l ++ [a]).map key).Nodup := by
  rw [List.map_append, List.nodup_append]
  exact ⟨h, List.nodup_cons.2 ⟨List.not_mem_nil, List.nodup_nil⟩,
    List.forall_mem_map.2 fun x hx _ hy => List.mem_singleton.1 hy ▸ ha x hx⟩

variable [DecidableEq κ]

theorem mem_remove {l : List α} {k : κ} {x : α} :
    x ∈ l.filter (fun y => key y != k) ↔ x ∈ l ∧ key x ≠ k := by
  rw [List.mem_filter, bne_iff_ne]

theorem foldl_filter_ne (ks : List κ) (l : List α) :
    ks.foldl (fun l k => l.filter fun x => key x != k) l = l.filter fun x => !ks.contains (key x) := by
  induction ks generalizing l with
  | nil => exact (List.filter_eq_self.2 fun _ _ => rfl).symm
  | cons k ks ih =>
    rw [List.foldl_cons, ih, List.filter_filter]
    apply List.filter_congr
    intro x _
    by_cases h : key x = k <;> simp [h]

theorem mem_put {l : List α} {k : κ} {a x : α} :
    x ∈ l.filter (fun y => key y != k) ++ [a] ↔ (x ∈ l ∧ key x ≠ k) ∨ x = a := by
  rw [List.mem_append, mem_remove, List.mem_singleton]

theorem nodup_put {l : List α} {k : κ} {a : α} (hk : key a = k) (h : (l.map key).Nodup) :
    ((l.filter (fun y => key y != k) ++ [a]).map key).Nodup :=
  nodup_snoc key (nodup_filter key _ h) fun _ hx => hk ▸ ((mem_remove key).1 hx).2

theorem nodup_cons {l : List α} {a : α} {m : κ} (ha : key a = m) (hm : l.any (fun x => key x == m) = false)
    (h : (l.map key).Nodup) : ((a :: l).map key).Nodup := by
  rw [List.map_cons, List.nodup_cons, ha]
  refine ⟨fun hx => ?_, h⟩
  obtain ⟨x, hl, rfl⟩ := List.mem_map.1 hx
  exact List.any_eq_false.1 hm x hl (beq_self_eq_true _)

theorem find?_key_some {l : List α} {m : κ} {e : α} (h : l.find? (fun x => key x == m) = some e) :
    e ∈ l ∧ key e = m :=
  ⟨List.mem_of_find?_eq_some h, by simpa using List.find?_some h⟩

theorem find?_isSome_iff (l : List α) (m : κ) :
    (l.find? (fun x => key x == m)).isSome = true ↔ m ∈ l.map key := by
  simp only [List.find?_isSome, List.mem_map, beq_iff_eq]

theorem find?_filter (q : κ → Bool) (l : List α) (m : κ) :
    (l.filter fun x => q (key x)).find? (fun x => key x == m) =
      if q m then l.find? (fun x => key x == m) else none := by
  induction l with
  | nil => simp
  | cons a l ih =>
    by_cases h : key a = m
    · subst h; cases hq : q (key a) <;> simp [hq, ih]
    · cases hq : q (key a) <;> simp [hq, h, ih]

theorem find?_map (g : α → α) (hk : ∀ x, key (g x) = key x) (l : List α) (m : κ) :
    (l.map g).find? (fun x => key x == m) = (l.find? (fun x => key x == m)).map g := by
  rw [List.find?_map]
  congr 2
  exact funext fun x => by simp [hk]

theorem find?_update (f : α → α) (l : List α) (m m' : κ) (hk : ∀ x, key x = m → key (f x) = m) :
    (l.map fun x => if key x == m then f x else x).find? (fun x => key x == m') =
      if m' = m then (l.find? (fun x => key x == m)).map f else l.find? (fun x => key x == m') := by
  rw [find?_map key _ (fun x => by split <;> simp_all)]
  by_cases hm : m' = m
  · subst hm
    rw [if_pos rfl]
    cases h : l.find? (fun x => key x == m') with
    | none => rfl
    | some e => simp [(find?_key_some key h).2]
  · rw [if_neg hm]
    cases h : l.find? (fun x => key x == m') with
    | none => rfl
    | some e => simp [(find?_key_some key h).2, hm]

/-- the change from `l` to `l'` concerns key `m` only -/
def SameOff (m : κ) (l' l : List α) : Prop :=
  ∀ m', m' ≠ m → l'.find? (fun x => key x == m') = l.find? (fun x => key x == m')

section SameOff
variable {key} {m : κ}

theorem SameOff.trans {a b d : List α} (h1 : SameOff key m a b) (h2 : SameOff key m b d) :
    SameOff key m a d := fun m' h => (h1 m' h).trans (h2 m' h)

/-! The changes of a table that concern key `m` only: none, removing `m`, rewriting the entries of `m`,
putting an entry of key `m` in front or at the end. -/

theorem SameOff.rfl {l : List α} : SameOff key m l l := fun _ _ => Eq.refl _

theorem SameOff.remove {l : List α} : SameOff key m (l.filter fun x => key x != m) l :=
  fun m' h => (find?_filter key (· != m) l m').trans (if_pos (by simpa using h))

theorem SameOff.update {l : List α} (f : α → α) (hk : ∀ x, key x = m → key (f x) = m) :
    SameOff key m (l.map fun x => if key x == m then f x else x) l :=
  fun m' h => (find?_update key f l m m' hk).trans (if_neg h)

theorem SameOff.cons {l : List α} {a : α} (ha : key a = m) : SameOff key m (a :: l) l :=
  fun m' h => List.find?_cons_of_neg (by simpa [ha] using fun e => h e.symm)

theorem SameOff.snoc {l : List α} {a : α} (ha : key a = m) : SameOff key m (l ++ [a]) l :=
  fun m' h => by simp [List.find?_append, ha, Ne.symm h]

end SameOff

section Nodup
variable {key} {l : List α} (hn : (l.map key).Nodup)
include hn

omit [DecidableEq κ] in
theorem eq_of_nodup_map {a b : α} (ha : a ∈ l) (hb : b ∈ l) (h : key a = key b) : a = b := by
  induction l with
  | nil => simp at ha
  | cons x l ih =>
    simp only [List.map_cons, List.nodup_cons, List.mem_map, List.mem_cons] at hn ha hb
    rcases ha with rfl | ha <;> rcases hb with rfl | hb
    · rfl
    · exact absurd ⟨b, hb, h.symm⟩ hn.1
    · exact absurd ⟨a, ha, h⟩ hn.1
    · exact ih hn.2 ha hb

theorem find?_key_of_mem_nodup {e : α} (he : e ∈ l) : l.find? (fun x => key x == key e) = some e := by
  cases h : l.find? (fun x => key x == key e) with
  | none => simpa using List.find?_eq_none.1 h e he
  | some a =>
    obtain ⟨ha, hk⟩ := find?_key_some key h
    rw [eq_of_nodup_map hn ha he hk]

theorem find?_filterMap (f : α → Option α) (hk : ∀ a a', f a = some a' → key a' = key a) (m : κ) :
    (l.filterMap f).find? (fun x => key x == m) = (l.find? (fun x => key x == m)).bind f := by
  induction l with
  | nil => rfl
  | cons a l ih =>
    rw [List.map_cons, List.nodup_cons] at hn
    by_cases h : key a = m
    · rw [List.find?_cons_of_pos (by simpa using h), Option.bind_some]
      cases hf : f a with
      | some a' => rw [List.filterMap_cons_some hf, List.find?_cons_of_pos (by simp [hk a a' hf, h])]
      | none =>
        -- the key was unique, so nothing later in the table answers to it
        rw [List.filterMap_cons_none hf, List.find?_eq_none]
        intro x hx
        obtain ⟨b, hb, hfb⟩ := List.mem_filterMap.1 hx
        have : key b ≠ key a := fun e => hn.1 (e ▸ List.mem_map_of_mem hb)
        simpa [hk b x hfb, h] using this
    · rw [List.find?_cons_of_neg (by simpa using h), ← ih hn.2]
      cases hf : f a with
      | some a' => rw [List.filterMap_cons_some hf, List.find?_cons_of_neg (by simp [hk a a' hf, h])]
      | none => rw [List.filterMap_cons_none hf]

theorem length_filterMap_drop (f : α → Option α) {a : α} (ha : a ∈ l) (hfa : f a = none)
    (hf : ∀ b ∈ l, key b ≠ key a → (f b).isSome) : (l.filterMap f).length + 1 = l.length := by
  induction l with
  | nil => simp at ha
  | cons x l ih =>
    have hn' := hn
    rw [List.map_cons, List.nodup_cons] at hn'
    by_cases h : key x = key a
    · obtain rfl := eq_of_nodup_map hn List.mem_cons_self ha h
      rw [List.filterMap_cons_none hfa, List.length_cons, List.filterMap_length_eq_length.2]
      exact fun b hb => hf b (List.mem_cons_of_mem _ hb) fun e => hn'.1 (e ▸ List.mem_map_of_mem hb)
    · obtain ⟨y, hy⟩ := Option.isSome_iff_exists.1 (hf x List.mem_cons_self h)
      have ha' : a ∈ l := (List.mem_cons.1 ha).resolve_left fun e => h (e ▸ rfl)
      rw [List.filterMap_cons_some hy, List.length_cons, List.length_cons,
        ih hn'.2 ha' fun b hb => hf b (List.mem_cons_of_mem _ hb)]

theorem filter_key_ne_length {e : α} (he : e ∈ l) :
    (l.filter fun x => key x != key e).length + 1 = l.length := by
  rw [← List.filterMap_eq_filter]
  exact length_filterMap_drop hn _ he (by simp) fun b _ hb => by simp [hb]

/-- an entry's key is among the keys of the entries picked by `P` iff `P` picks that entry -/
theorem contains_map_filter (P : α → Bool) {e : α} (he : e ∈ l) :
    ((l.filter P).map key).contains (key e) = P e := by
  rw [Bool.eq_iff_iff, List.contains_iff_mem, List.mem_map]
  constructor
  · rintro ⟨e', he', hk⟩
    rw [← eq_of_nodup_map hn (List.mem_filter.1 he').1 he hk]
    exact (List.mem_filter.1 he').2
  · exact fun hx => ⟨e, List.mem_filter.2 ⟨he, hx⟩, rfl⟩

/-- so the entries picked by `P` can be removed by their keys -/
theorem filter_not (P : α → Bool) :
    l.filter (fun e => !P e) = l.filter fun e => !((l.filter P).map key).contains (key e) :=
  List.filter_congr fun e he => by rw [contains_map_filter hn P he]

end Nodup
end TT.Keyed
