import TT.Model.Bytes
/-! Facts about the byte readers of `TT.Bytes`, shared by the codec proofs: a reader reads back what
`u16be` / `u32be` wrote, succeeds on enough input and leaves `drop`, and does not see bytes appended
behind what it reads.  Both codecs fill a reassembly buffer from a chunk: what they move makes it
`(buffer ++ chunk).take cap` (`fill_take`, `fill_drop`, `filled_cases`); the counted body phases of C17 cut
their input in the same way (`take_min_length`). -/
namespace TT.Bytes

theorem take_append_ge {α : Type} {a r : List α} {n : Nat} (h : a.length ≤ n) :
    (a ++ r).take n = a ++ r.take (n - a.length) := by
  rw [List.take_append, List.take_of_length_le h]

theorem drop_append_ge {α : Type} {a r : List α} {n : Nat} (h : a.length ≤ n) :
    (a ++ r).drop n = r.drop (n - a.length) := by
  rw [List.drop_append, List.drop_of_length_le h, List.nil_append]

theorem take_min_length {α : Type} (d : List α) (r : Nat) : d.take (min d.length r) = d.take r := by
  rw [Nat.min_comm]; exact List.take_eq_take_min.symm

theorem drop_min_length {α : Type} (d : List α) (r : Nat) : d.drop (min d.length r) = d.drop r := by
  rw [Nat.min_comm]; exact List.drop_eq_drop_min.symm

theorem fill_take {α : Type} {b i : List α} {cap : Nat} (h : b.length ≤ cap) :
    b ++ i.take (min i.length (cap - b.length)) = (b ++ i).take cap := by
  rw [take_min_length, take_append_ge h]

theorem fill_drop {α : Type} {b i : List α} {cap : Nat} (h : b.length ≤ cap) :
    i.drop (min i.length (cap - b.length)) = (b ++ i).drop cap := by
  rw [drop_min_length, drop_append_ge h]

/-- a buffer filled from `x` that stays short of `cap` has taken all of `x`, so the decoders' assertion
that nothing is left behind it cannot fail -/
theorem filled_cases {α β : Type} (x : List α) (cap : Nat) (panic : β) (need : List α → β)
    (got : List α → List α → β) :
    (if (x.take cap).length < cap then (if !(x.drop cap).isEmpty then panic else need (x.take cap))
      else got (x.take cap) (x.drop cap)) =
    if x.length < cap then need x else got (x.take cap) (x.drop cap) := by
  by_cases h : x.length < cap
  · rw [List.take_of_length_le (Nat.le_of_lt h), List.drop_of_length_le (Nat.le_of_lt h), if_pos h, if_pos h]; rfl
  · rw [if_neg h, List.length_take_of_le (Nat.le_of_not_lt h), if_neg (Nat.lt_irrefl cap)]

theorem u16_rt {n : Nat} (h : n < 65536) : n / 256 % 256 * 256 + n % 256 = n := by
  rw [Nat.mod_eq_of_lt (Nat.div_lt_of_lt_mul h), Nat.div_add_mod']

theorem u16_zero {n : Nat} (h1 : n / 256 % 256 = 0) (h2 : n % 256 = 0) (h : n < 65536) : n = 0 := by
  rw [← u16_rt h, h1, h2]

@[simp] theorem u16be_length (n : Nat) : (u16be n).length = 2 := rfl

theorem u16be_lt (n : Nat) : ∀ x ∈ u16be n, x < 256 :=
  List.forall_mem_cons.2 ⟨Nat.mod_lt _ (by decide), List.forall_mem_singleton.2 (Nat.mod_lt _ (by decide))⟩

theorem getU16_u16be {n : Nat} (h : n < 65536) (r : Bytes) : getU16 (u16be n ++ r) = .ok (n, r) :=
  congrArg (fun k => Res.ok (k, r)) (u16_rt h)

theorem u32_rt {n : Nat} (h : n < 4294967296) :
    ((n / 16777216 % 256 * 256 + n / 65536 % 256) * 256 + n / 256 % 256) * 256 + n % 256 = n := by
  -- byte by byte: the top byte is below 256, and each `Nat.div_add_mod'` puts the next one back
  have e1 : n / 65536 = n / 256 / 256 := by rw [Nat.div_div_eq_div_mul]
  have e2 : n / 16777216 = n / 256 / 256 / 256 := by rw [Nat.div_div_eq_div_mul, Nat.div_div_eq_div_mul]
  rw [e1, e2, Nat.mod_eq_of_lt (Nat.div_lt_of_lt_mul (Nat.div_lt_of_lt_mul (Nat.div_lt_of_lt_mul h))),
    Nat.div_add_mod', Nat.div_add_mod', Nat.div_add_mod']

theorem getU32_u32be {n : Nat} (h : n < 4294967296) (r : Bytes) : getU32 (u32be n ++ r) = .ok (n, r) :=
  congrArg (fun k => Res.ok (k, r)) (u32_rt h)

theorem getU8_ok (p : Bytes) (h : 1 ≤ p.length) : ∃ a, getU8 p = .ok (a, p.drop 1) :=
  match p, h with
  | a :: _, _ => ⟨a, rfl⟩

theorem getU16_ok (p : Bytes) (h : 2 ≤ p.length) : ∃ a, getU16 p = .ok (a, p.drop 2) :=
  match p, h with
  | _ :: _ :: _, _ => ⟨_, rfl⟩

theorem getU32_ok (p : Bytes) (h : 4 ≤ p.length) : ∃ a, getU32 p = .ok (a, p.drop 4) :=
  match p, h with
  | _ :: _ :: _ :: _ :: _, _ => ⟨_, rfl⟩

theorem getU32_rest {s rest : Bytes} {n : Nat} (h : getU32 s = .ok (n, rest)) :
    rest.length + 4 = s.length :=
  match s, h with
  | _ :: _ :: _ :: _ :: _, h => by cases h; rfl

theorem advance_ok (n : Nat) (p : Bytes) (h : n ≤ p.length) : advance n p = .ok (p.drop n) :=
  if_pos h

theorem splitTo_ok (n : Nat) (p : Bytes) (h : n ≤ p.length) : splitTo n p = .ok (p.take n, p.drop n) :=
  if_pos h

theorem splitOff_ok (n : Nat) (p : Bytes) (h : n ≤ p.length) : splitOff n p = .ok (p.drop n, p.take n) :=
  if_pos h

/-- the form in which a chain of reads is followed without naming what is left -/
theorem reads_ge {α : Type} {f : Bytes → Res (α × Bytes)} {k : Nat}
    (hf : ∀ p, k ≤ p.length → ∃ a, f p = .ok (a, p.drop k)) {n : Nat} {p : Bytes} (h : n + k ≤ p.length) :
    ∃ a q, f p = .ok (a, q) ∧ n ≤ q.length :=
  let ⟨a, e⟩ := hf p (Nat.le_of_add_left_le h)
  ⟨a, _, e, List.length_drop ▸ Nat.le_sub_of_add_le h⟩

theorem getU8_drop (p : Bytes) (i : Nat) (h : i < p.length) :
    getU8 (p.drop i) = .ok (p[i]?.getD 0, p.drop (i + 1)) := by
  rw [List.drop_eq_getElem_cons h, List.getElem?_eq_getElem h]; rfl

theorem advance_drop (p : Bytes) (i k : Nat) (h : i + k ≤ p.length) :
    advance k (p.drop i) = .ok (p.drop (i + k)) := by
  rw [advance_ok _ _ (by rw [List.length_drop]; omega), List.drop_drop]

theorem getU16_append {p r : Bytes} {a : Nat} (h : getU16 p = .ok (a, r)) (x : Bytes) :
    getU16 (p ++ x) = .ok (a, r ++ x) :=
  match p, h with
  | _ :: _ :: _, h => by cases h; rfl

theorem getU32_append {p r : Bytes} {a : Nat} (h : getU32 p = .ok (a, r)) (x : Bytes) :
    getU32 (p ++ x) = .ok (a, r ++ x) :=
  match p, h with
  | _ :: _ :: _ :: _ :: _, h => by cases h; rfl

theorem splitTo_append {n : Nat} {p a r : Bytes} (h : splitTo n p = .ok (a, r)) (x : Bytes) :
    splitTo n (p ++ x) = .ok (a, r ++ x) := by
  unfold splitTo at h ⊢
  split at h
  · next hn =>
    cases h
    rw [if_pos (by rw [List.length_append]; omega), List.take_append_of_le_length hn,
      List.drop_append_of_le_length hn]
  · cases h

theorem splitTo_left (a r : Bytes) : splitTo a.length (a ++ r) = .ok (a, r) := by
  rw [splitTo_ok _ _ (by simp), List.take_left, List.drop_left]

/-- `DatagramDecoder::read` (both codecs) puts a pending tail back in front of the queue -/
theorem requeue (tail : Bytes) (rest : List Bytes) :
    (if tail.isEmpty then rest else tail :: rest).flatten = tail ++ rest.flatten ∧
    (if tail.isEmpty then rest else tail :: rest).length ≤ rest.length + 1 := by
  cases tail with
  | nil => exact ⟨rfl, Nat.le_succ _⟩
  | cons => exact ⟨rfl, Nat.le_refl _⟩

end TT.Bytes
