import TT.Model.Dispatch
/-!
The tunnel request path (C01, C10). With an authenticator configured `gate` is given by three equations, one per thing a request can present.
`handled` lists the eight answers `handle` can give, each with what decides it and the equation for `handle`;
statements about all requests go through these eight; `response_of_handle` reads off them the three kinds of response there are.
-/
namespace TT.Dispatch
open TT TT.Gen

@[simp] theorem isFinal_failWith (e : ConnErr) : isFinal (failWith e) = true := rfl
@[simp] theorem isFinal_ok200 : isFinal ok200 = true := rfl
@[simp] theorem isFinal_response (x : Response) : isFinal (.response x) = true := rfl
@[simp] theorem isFinal_egress (x : Egress) : isFinal (.egress x) = false := rfl

theorem failWith_ne_egress (e : ConnErr) (x : Egress) : failWith e ≠ .egress x := by
  simp [failWith]

theorem ok200_ne_egress (x : Egress) : ok200 ≠ .egress x := by
  simp [ok200]

/-- a presented Basic token alone decides, whatever the connection's policy -/
theorem gate_basic (t : List Char) (policy : Policy) (a : Authn) :
    gate (.basic t) policy (some a) = if a.accepts (.proxyBasic t) then .pass (some (.proxyBasic t)) else .reject := by
  cases policy <;> rfl

/-- without a header the connection's accepted SNI credentials count, and nothing else -/
theorem gate_absent (policy : Policy) (a : Authn) :
    gate .absent policy (some a) = match policy with | .authenticated x => .pass (some x) | .default_ => .reject := by
  cases policy <;> rfl

theorem gate_unreadable (policy : Policy) (authn : Option Authn) : gate .unreadable policy authn = .reject := by
  cases policy <;> cases authn <;> rfl

theorem reserved_distinct :
    health_check_authority ≠ udp_authority ∧ health_check_authority ≠ icmp_authority ∧
    udp_authority ≠ icmp_authority := by decide

/-- `promote` on a reserved authority never yields `.tcp`: the method alone decides -/
theorem promote_reserved (r : Req) (a : String) (ha : r.authority = some a)
    (hr : a = health_check_authority ∨ a = udp_authority ∨ a = icmp_authority) :
    (r.method = .connect ∧ (promote r = .health ∨ ∃ i, promote r = .mux i)) ∨
    (r.method ≠ .connect ∧ promote r = .badMethod) := by
  obtain ⟨h1, h2, h3⟩ := reserved_distinct
  by_cases hm : r.method = .connect
  · refine .inl ⟨hm, ?_⟩
    rcases hr with rfl | rfl | rfl
    · exact .inl (by simp [promote, ha, hm])
    · exact .inr ⟨false, by simp [promote, ha, hm, h1.symm]⟩
    · exact .inr ⟨true, by simp [promote, ha, hm, h2.symm, h3.symm]⟩
  · refine .inr ⟨hm, ?_⟩
    rcases hr with rfl | rfl | rfl <;> simp [promote, ha, hm, h1.symm, h2.symm, h3.symm]

/-- `TcpConnection::destination` succeeds -/
def destOk (r : Req) : Bool := r.authority.isSome && (r.isLiteral || r.method != .connect || r.port.isSome)

/-- Every way `handle` can answer a request, each with what decides it. Statements about all requests are
proved by going through these eight answers (`handled`). -/
inductive Handled (r : Req) (policy : Policy) (authn : Option Authn) (env : Env) : Prop
  | rejected (hg : gate (authInfo r.authHdr) policy authn = .reject)
      (h : handle r policy authn env = [failWith .authentication])
  | health (fa) (hg : gate (authInfo r.authHdr) policy authn = .pass fa) (hk : promote r = .health)
      (h : handle r policy authn env = [ok200])
  | badMethod (fa) (hg : gate (authInfo r.authHdr) policy authn = .pass fa) (hk : promote r = .badMethod)
      (h : handle r policy authn env = [.response ⟨bad_status_code, []⟩])
  | muxRefused (src icmp) (hg : gate (authInfo r.authHdr) policy authn = .pass (some src)) (hk : promote r = .mux icmp)
      (hf : env.datagramAuthFails = true)
      (h : handle r policy authn env = [.egress .checkAuth, failWith .authentication])
  | muxOpened (fa icmp) (hg : gate (authInfo r.authHdr) policy authn = .pass fa) (hk : promote r = .mux icmp)
      (hf : (fa.isSome && env.datagramAuthFails) = false)
      (h : handle r policy authn env =
        (if fa.isSome then [.egress .checkAuth] else []) ++ [ok200, .egress (if icmp then .icmpMux else .udpMux)])
  | noDestination (fa) (hg : gate (authInfo r.authHdr) policy authn = .pass fa) (hk : promote r = .tcp)
      (hd : destOk r = false) (h : handle r policy authn env = [failWith .io])
  | connected (fa) (hg : gate (authInfo r.authHdr) policy authn = .pass fa) (hk : promote r = .tcp) (hd : destOk r = true)
      (hc : env.connect = .ok ∨ ∃ ms, env.connect = .delayedOk ms ∧ ms ≤ env.establishTimeoutMs)
      (h : handle r policy authn env =
        if r.method == .connect then [.egress .tcpConnect, ok200] else [.egress .tcpConnect])
  | connectFailed (fa e) (hg : gate (authInfo r.authHdr) policy authn = .pass fa) (hk : promote r = .tcp)
      (hd : destOk r = true)
      (hc : env.connect = .err e ∨ e = .timeout ∧ ∃ ms, env.connect = .delayedOk ms ∧ env.establishTimeoutMs < ms)
      (h : handle r policy authn env = [.egress .tcpConnect, failWith e])

theorem handled (r : Req) (policy : Policy) (authn : Option Authn) (env : Env) : Handled r policy authn env := by
  cases hg : gate (authInfo r.authHdr) policy authn with
  | reject => exact .rejected hg (by simp [handle, hg])
  | pass fa =>
    cases hk : promote r with
    | health => exact .health fa hg hk (by simp [handle, hg, hk])
    | badMethod => exact .badMethod fa hg hk (by simp [handle, hg, hk])
    | mux icmp =>
      cases hf : fa.isSome && env.datagramAuthFails with
      | false => exact .muxOpened fa icmp hg hk hf (by simp [handle, hg, hk, hf])
      | true =>
        obtain ⟨h1, h2⟩ := Bool.and_eq_true_iff.1 hf
        obtain ⟨src, rfl⟩ := Option.isSome_iff_exists.1 h1
        exact .muxRefused src icmp hg hk h2 (by simp [handle, hg, hk, h2])
    | tcp =>
      cases hd : destOk r with
      | false => exact .noDestination fa hg hk hd (by rw [destOk] at hd; simp [handle, hg, hk, hd])
      | true =>
        have hd' := hd
        rw [destOk] at hd'
        cases hc : env.connect with
        | ok => exact .connected fa hg hk hd (.inl hc) (by simp [handle, hg, hk, hd', hc])
        | err e => exact .connectFailed fa e hg hk hd (.inl hc) (by simp [handle, hg, hk, hd', hc])
        | delayedOk ms =>
          by_cases ht : ms ≤ env.establishTimeoutMs
          · exact .connected fa hg hk hd (.inr ⟨ms, hc, ht⟩) (by simp [handle, hg, hk, hd', hc, ht])
          · exact .connectFailed fa .timeout hg hk hd (.inr ⟨rfl, ms, hc, Nat.lt_of_not_le ht⟩)
              (by simp [handle, hg, hk, hd', hc, ht])

/-- the responses `handle` gives: 200, the bare 502 of a wrong method, or the answer to a `ConnErr` -/
theorem response_of_handle {r : Req} {policy : Policy} {authn : Option Authn} {env : Env} {resp : Response}
    (h : .response resp ∈ handle r policy authn env) :
    .response resp = ok200 ∨ resp = ⟨bad_status_code, []⟩ ∨ ∃ e, .response resp = failWith e := by
  cases handled r policy authn env with
  | rejected _ h' | noDestination _ _ _ _ h' | muxRefused _ _ _ _ _ h' | connectFailed _ _ _ _ _ _ h' =>
    exact .inr (.inr ⟨_, by simpa [h'] using h⟩)
  | health _ _ _ h' => exact .inl (by simpa [h'] using h)
  | badMethod _ _ _ h' => exact .inr (.inl (by simpa [h'] using h))
  | muxOpened fa _ _ _ _ h' => exact .inl (by cases fa <;> simpa [h'] using h)
  | connected _ _ _ _ _ h' =>
    rw [h'] at h
    split at h
    · exact .inl (by simpa using h)
    · simp at h

end TT.Dispatch
