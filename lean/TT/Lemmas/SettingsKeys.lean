import TT.Model.SettingsKeys
namespace TT.SettingsKeys

/-- `NamesItsField` with a shortcut: a key spelled exactly like its field needs no look at the characters. Taking a
string literal apart is what costs the kernel (the literal is a UTF-8 byte array), and most keys are their field's name. -/
def namesItsFieldQuick (table : Table) : Bool :=
  table.all fun r => r.2.2.all fun k =>
    k == r.2.1 || (k.toList.isSuffixOf r.2.1.toList || r.2.1.toList.isPrefixOf k.toList)

theorem namesItsField_of_quick {table : Table} (h : namesItsFieldQuick table = true) : NamesItsField table = true := by
  simp only [namesItsFieldQuick, NamesItsField, List.all_eq_true] at h ⊢
  intro r hr k hk
  rcases Bool.or_eq_true_iff.1 (h r hr k hk) with e | e
  · simp [eq_of_beq e]
  · exact e

/-- both facts about the generated table in one evaluation: the kernel decodes each string literal of the table once -/
theorem settingsKeys_checked :
    Unambiguous TT.Gen.settingsKeys = true ∧ namesItsFieldQuick TT.Gen.settingsKeys = true := by decide +kernel

end TT.SettingsKeys
