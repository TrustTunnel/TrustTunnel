import TT.Model.UdpFlows
import TT.Lemmas.Keyed
/-!
The UDP multiplexer of C07. Three things carry the file: the invariant `Inv`, preserved by the few
shapes of table change the operations are made of (restriction to a set of keys, rewriting the
entries of one key, inserting a fresh key); `Local m`, what an operation on flow `m` cannot touch;
and for each operation a statement of what it does (`DgOut` for a datagram, `ReplyOut` for a reply,
`AdvOut` for the clock), put together in `StepOut` for one operation and `RunOut` for a history.
-/
namespace TT.UdpFlows
open Keyed

def pipeEntry (s : St) (m : Meta) : Option PipeEntry := s.pipe.find? (·.key == m)

structure Core (c : Cfg) (s : St) : Prop where
  keys : s.socks.map (·.key) = s.pipe.map (·.key)
  nodupK : (s.pipe.map (·.key)).Nodup
  nodupId : (s.socks.map (·.id)).Nodup
  /-- a socket goes to its flow's destination, was made only because that can be connected, and has an id
  the counter has passed -/
  sock : ∀ k ∈ s.socks, k.dest = k.key.dst ∧ k.id < s.nextId ∧ c.kind k.dest ≠ .unconn
  peerLt : ∀ p ∈ s.peers, p.2 < s.nextId
  /-- with `peerLt`, ids are never reused: an open socket with the id a server remembers is still that flow's -/
  peerKey : ∀ p ∈ s.peers, ∀ k ∈ s.socks, k.id = p.2 → k.key = p.1
  pend : ∀ e ∈ s.pipe, e.pending.isSome → c.kind e.key.dst = .dns
  tick : s.nextTick ≤ s.now + c.timeout / 4
  last : ∀ e ∈ s.pipe, e.last ≤ s.now
  fin : s.finished = true → s.pipe = [] ∧ s.socks = []

/-- every socket towards a listening destination is the one its server knows for the flow
(except possibly the flow `ex`, in the middle of `stepDg`) -/
def Known (c : Cfg) (s : St) (ex : Option Meta) : Prop :=
  ∀ k ∈ s.socks, some k.key ≠ ex → (c.kind k.dest = .live ∨ c.kind k.dest = .dns) →
    s.peers.find? (·.1 == k.key) = some (k.key, k.id)

structure Inv (c : Cfg) (s : St) : Prop where
  core : Core c s
  known : Known c s none

theorem inv_init (c : Cfg) : Inv c (init c) :=
  ⟨{ keys := rfl, nodupK := .nil, nodupId := .nil, sock := List.forall_mem_nil _,
     peerLt := List.forall_mem_nil _, peerKey := List.forall_mem_nil _, pend := List.forall_mem_nil _,
     tick := Nat.le_add_left .., last := List.forall_mem_nil _, fin := fun _ => ⟨rfl, rfl⟩ },
    List.forall_mem_nil _⟩

/-! The invariant does not look at the byte counters: for a state that differs from `s` in `up` or `down` only,
`{ h with }` checks each field of `h : Core c s` again, up to unfolding, and `Known` is the same proposition. -/

theorem Core.nodupSK {c s} (h : Core c s) : (s.socks.map (·.key)).Nodup := h.keys ▸ h.nodupK

theorem hasPipe_eq (s : St) (m : Meta) : hasPipe s m = (pipeEntry s m).isSome :=
  List.isSome_find?.symm

theorem Core.coupled {c s} (h : Core c s) (m : Meta) : hasPipe s m = (findSock s m).isSome := by
  rw [hasPipe_eq, Bool.eq_iff_iff]
  unfold pipeEntry findSock
  rw [find?_isSome_iff, find?_isSome_iff, h.keys]

theorem findSock_some {s : St} {m : Meta} {k : Sock} (h : findSock s m = some k) :
    k ∈ s.socks ∧ k.key = m := find?_key_some Sock.key h

theorem pipeEntry_some {s : St} {m : Meta} {e : PipeEntry} (h : pipeEntry s m = some e) :
    e ∈ s.pipe ∧ e.key = m := find?_key_some PipeEntry.key h

theorem pipeEntry_update {s : St} {m : Meta} {e : PipeEntry} (g : PipeEntry → PipeEntry)
    (hk : ∀ x, x.key = m → (g x).key = m) (he : pipeEntry s m = some e) :
    (s.pipe.map fun x => if x.key == m then g x else x).find? (·.key == m) = some (g e) :=
  (find?_update PipeEntry.key g s.pipe m m hk).trans
    (by rw [if_pos rfl, show List.find? _ _ = _ from he]; rfl)

theorem Core.findSock_none {c s} (h : Core c s) {m : Meta} (hn : hasPipe s m = false) :
    findSock s m = none := by
  simpa [h.coupled m] using hn

theorem Core.running {c s} (h : Core c s) {k : Sock} (hk : k ∈ s.socks) : s.finished = false := by
  cases hf : s.finished with
  | false => rfl
  | true => rw [(h.fin hf).2] at hk; simp at hk

theorem Core.sock_of_entry {c s} (h : Core c s) {m : Meta} {e : PipeEntry} (he : pipeEntry s m = some e) :
    ∃ k, findSock s m = some k ∧ s.finished = false := by
  have hp : hasPipe s m = true := by rw [hasPipe_eq, he]; rfl
  rw [h.coupled m] at hp
  obtain ⟨k, hk⟩ := Option.isSome_iff_exists.1 hp
  exact ⟨k, hk, h.running (findSock_some hk).1⟩

/-- sockets are only made for connectable destinations, and a flow in the table has one -/
theorem Core.hasPipe_unconn {c s} (h : Core c s) {m : Meta} (hu : c.kind m.dst = .unconn) :
    hasPipe s m = false := by
  rw [h.coupled]
  cases hs : findSock s m with
  | none => rfl
  | some k =>
    obtain ⟨hk1, hk2⟩ := findSock_some hs
    exact absurd hu (hk2 ▸ (h.sock k hk1).1 ▸ (h.sock k hk1).2.2)

/-! Restriction of both tables to a set of keys: what a lookup finds afterwards, and that the invariant is kept. -/

def keep (s : St) (q : Meta → Bool) : St :=
  { s with pipe := s.pipe.filter (fun e => q e.key), socks := s.socks.filter (fun k => q k.key) }

theorem remove_eq (s : St) (m : Meta) : removeSock (removePipe s m) m = keep s (· != m) := rfl

theorem keep_view (s : St) (q : Meta → Bool) (m : Meta) :
    pipeEntry (keep s q) m = (if q m then pipeEntry s m else none) ∧
      findSock (keep s q) m = if q m then findSock s m else none :=
  ⟨find?_filter PipeEntry.key q s.pipe m, find?_filter Sock.key q s.socks m⟩

theorem keep_self (s : St) (m : Meta) :
    hasPipe (keep s (· != m)) m = false ∧ findSock (keep s (· != m)) m = none := by
  have := keep_view s (· != m) m
  rw [hasPipe_eq, this.1, this.2]
  simp

theorem Core.restrict {c s} (h : Core c s) (q : Meta → Bool) : Core c (keep s q) :=
  { h with
    keys := by
      show (s.socks.filter (q ∘ (·.key))).map (·.key) = (s.pipe.filter (q ∘ (·.key))).map (·.key)
      rw [← List.filter_map, ← List.filter_map, h.keys]
    nodupK := nodup_filter PipeEntry.key _ h.nodupK
    nodupId := nodup_filter Sock.id _ h.nodupId
    sock := fun k hk => h.sock k (List.mem_filter.1 hk).1
    peerKey := fun p hp k hk => h.peerKey p hp k (List.mem_filter.1 hk).1
    pend := fun e he => h.pend e (List.mem_filter.1 he).1
    last := fun e he => h.last e (List.mem_filter.1 he).1
    fin := fun hf => by simp [keep, h.fin hf] }

theorem Known.restrict {c s ex} (h : Known c s ex) (q : Meta → Bool) : Known c (keep s q) ex :=
  fun k hk => h k ((List.mem_filter.1 hk).1)

theorem Inv.restrict {c s} (h : Inv c s) (q : Meta → Bool) : Inv c (keep s q) :=
  ⟨h.core.restrict q, h.known.restrict q⟩

theorem Known.weaken {c s ex} (h : Known c s none) : Known c s ex :=
  fun k hk _ => h k hk (by simp)

theorem Known.restrict_ne {c s m} (h : Known c s (some m)) :
    Known c (keep s (· != m)) none := fun k hk _ hkind => by
  have := List.mem_filter.1 hk
  exact h k this.1 (by simpa using this.2) hkind

/-- the excepted flow needs no exception when its socket is not towards a listening destination -/
theorem Known.of_not_listening {c s m k} (h : Known c s (some m)) (hc : Core c s)
    (hs : findSock s m = some k) (hk : ¬(c.kind k.dest = .live ∨ c.kind k.dest = .dns)) :
    Known c s none := fun k' hk' _ hkind => by
  by_cases hkm : k'.key = m
  · obtain ⟨hk1, hk2⟩ := findSock_some hs
    rw [eq_of_nodup_map hc.nodupSK hk' hk1 (hkm.trans hk2.symm)] at hkind
    exact absurd hkind hk
  · exact h k' hk' (by simpa using hkm) hkind

/-! Rewriting entries in place keeps the invariant if it keeps what the invariant reads of them. -/

theorem Core.mapSocks {c s} (h : Core c s) (g : Sock → Sock)
    (hg : ∀ x, (g x).key = x.key ∧ (g x).id = x.id ∧ (g x).dest = x.dest) :
    Core c { s with socks := s.socks.map g } :=
  { h with
    keys := (map_key_map Sock.key fun x _ => (hg x).1).trans h.keys
    nodupId := (map_key_map Sock.id fun x _ => (hg x).2.1).symm ▸ h.nodupId
    sock := by simpa only [List.forall_mem_map, hg] using h.sock
    peerKey := by simpa only [List.forall_mem_map, hg] using h.peerKey
    fin := fun hf => by simp [h.fin hf] }

theorem Known.mapSocks {c s ex} (h : Known c s ex) (g : Sock → Sock)
    (hg : ∀ x, (g x).key = x.key ∧ (g x).id = x.id ∧ (g x).dest = x.dest) :
    Known c { s with socks := s.socks.map g } ex := by
  simpa only [Known, List.forall_mem_map, hg] using h

theorem Core.mapPipe {c s} (h : Core c s) (g : PipeEntry → PipeEntry)
    (hg : ∀ x ∈ s.pipe, (g x).key = x.key ∧ (g x).last ≤ s.now ∧
      ((g x).pending.isSome → c.kind x.key.dst = .dns)) :
    Core c { s with pipe := s.pipe.map g } :=
  have hkeys := map_key_map PipeEntry.key fun x hx => (hg x hx).1
  { h with
    keys := h.keys.trans hkeys.symm
    nodupK := hkeys ▸ h.nodupK
    pend := List.forall_mem_map.2 fun e he => by rw [(hg e he).1]; exact (hg e he).2.2
    last := List.forall_mem_map.2 fun e he => (hg e he).2.1
    fin := fun hf => by simp [h.fin hf] }

structure Frame (s' s : St) : Prop where
  now : s'.now = s.now
  nextTick : s'.nextTick = s.nextTick
  finished : s'.finished = s.finished

theorem Frame.rfl' (s : St) : Frame s s := ⟨rfl, rfl, rfl⟩

theorem Frame.trans {a b d : St} (h1 : Frame a b) (h2 : Frame b d) : Frame a d :=
  ⟨h1.now.trans h2.now, h1.nextTick.trans h2.nextTick, h1.finished.trans h2.finished⟩

/-- an operation on flow `m` keeps the clock, the timer and `finished`, and every other flow's
entry and socket; the tables change in the ways `SameOff` lists -/
structure Local (m : Meta) (s' s : St) : Prop where
  frame : Frame s' s
  pipe : SameOff PipeEntry.key m s'.pipe s.pipe
  socks : SameOff Sock.key m s'.socks s.socks

theorem Local.other {m : Meta} {s' s : St} (h : Local m s' s) (m' : Meta) (hne : m' ≠ m) :
    pipeEntry s' m' = pipeEntry s m' ∧ findSock s' m' = findSock s m' := ⟨h.pipe m' hne, h.socks m' hne⟩

theorem Local.rfl {m : Meta} {s : St} : Local m s s := ⟨Frame.rfl' s, .rfl, .rfl⟩

theorem Local.trans {m : Meta} {a b d : St} (h1 : Local m a b) (h2 : Local m b d) : Local m a d :=
  ⟨h1.frame.trans h2.frame, h1.pipe.trans h2.pipe, h1.socks.trans h2.socks⟩

theorem Local.sock_key {m : Meta} {s' s : St} (h : Local m s' s) {k : Sock} (hk : k ∈ s'.socks) :
    k.key = m ∨ k.key ∈ s.socks.map (·.key) := by
  by_cases hkm : k.key = m
  · exact .inl hkm
  · right
    rw [← find?_isSome_iff, ← h.socks _ hkm, find?_isSome_iff]
    exact List.mem_map_of_mem hk

theorem find?_setPeer (ps : List (Meta × Nat)) (m m' : Meta) (id : Nat) :
    (setPeer ps m id).find? (·.1 == m') = if m' = m then some (m, id) else ps.find? (·.1 == m') := by
  unfold setPeer
  by_cases h : m' = m
  · simp [h]
  · rw [List.find?_cons_of_neg (by simpa using fun e => h e.symm), if_neg h]
    exact (find?_filter Prod.fst (· != m) ps m').trans (by simp [h])

theorem setPeer_inv {c s m k} (hc : Core c s) (hk : Known c s (some m)) (hs : findSock s m = some k) :
    Inv c { s with peers := setPeer s.peers m k.id } := by
  obtain ⟨hkm, hkk⟩ := findSock_some hs
  refine ⟨{ hc with peerLt := ?_, peerKey := ?_ }, fun k' hk' _ hkind => ?_⟩
  · exact List.forall_mem_cons.2 ⟨(hc.sock k hkm).2.1, fun p hp => hc.peerLt p (List.mem_filter.1 hp).1⟩
  · exact List.forall_mem_cons.2 ⟨fun k' hk' hid => eq_of_nodup_map hc.nodupId hk' hkm hid ▸ hkk,
      fun p hp => hc.peerKey p (List.mem_filter.1 hp).1⟩
  · show (setPeer s.peers m k.id).find? (·.1 == k'.key) = _
    rw [find?_setPeer]
    by_cases hkey : k'.key = m
    · rw [if_pos hkey, eq_of_nodup_map hc.nodupSK hk' hkm (hkey.trans hkk.symm), hkk]
    · rw [if_neg hkey]; exact hk k' hk' (by simpa using hkey) hkind

theorem sinkWrite_poisoned {c s} {m : Meta} {k : Sock} {len : Nat} (hs : findSock s m = some k)
    (hp : k.poisoned = true) : sinkWrite c s m len = (keep s (· != m), {}) := by
  unfold sinkWrite
  rw [hs]
  simp [hp, remove_eq]

theorem sinkWrite_sent {c s} {m : Meta} {k : Sock} {len : Nat} (hs : findSock s m = some k)
    (hp : k.poisoned = false) (hk : c.kind k.dest = .live ∨ c.kind k.dest = .dns) :
    sinkWrite c s m len =
      ({ s with up := s.up + len, peers := setPeer s.peers m k.id }, { srv := [(k.dest, m, len)] }) := by
  unfold sinkWrite
  rw [hs]
  rcases hk with hk | hk <;> simp [hp, hk]

/-- what a client datagram of `len` bytes on flow `m` does to `s`: the invariant is kept, the
datagram is local to the flow and counts nothing downwards; nothing is observed, or the flow's
destination receives the datagram -/
structure DgOut (c : Cfg) (m : Meta) (len : Nat) (s : St) (r : St × Obs) : Prop where
  inv : Inv c r.1
  loc : Local m r.1 s
  down : r.1.down = s.down
  obs : r.2 = {} ∨ r.2 = { srv := [(m.dst, m, len)] }

theorem DgOut.quiet {c : Cfg} {m : Meta} {len : Nat} {s' s : St} (h : Inv c s') (l : Local m s' s)
    (d : s'.down = s.down) : DgOut c m len s (s', {}) := ⟨h, l, d, .inl rfl⟩

/-- the operation was prepared by a step from `s` to `s1` that is itself local to the flow -/
theorem DgOut.of {c : Cfg} {m : Meta} {len : Nat} {s1 s : St} {r : St × Obs} (o : DgOut c m len s1 r)
    (l : Local m s1 s) (d : s1.down = s.down) : DgOut c m len s r :=
  ⟨o.inv, o.loc.trans l, o.down.trans d, o.obs⟩

/-- the outcomes of a write: the flow is forgotten (no socket, or a pending socket error); or the
socket of the flow takes the datagram, which then reaches a server or poisons the socket (by the
invariant there is no socket towards an unconnectable destination) -/
theorem sinkWrite_out {c s m len} (hc : Core c s) (hk : Known c s (some m)) :
    DgOut c m len s (sinkWrite c s m len) := by
  have gone : DgOut c m len s (keep s (· != m), {}) :=
    .quiet ⟨hc.restrict _, hk.restrict_ne⟩ ⟨⟨rfl, rfl, rfl⟩, .remove, .remove⟩ rfl
  unfold sinkWrite
  split
  · exact gone
  · next k hs =>
    obtain ⟨hk1, hk2⟩ := findSock_some hs
    have i := setPeer_inv hc hk hs
    have sent : DgOut c m len s
        ({ s with up := s.up + len, peers := setPeer s.peers m k.id }, { srv := [(k.dest, m, len)] }) :=
      ⟨⟨{ i.core with }, i.known⟩, ⟨⟨rfl, rfl, rfl⟩, .rfl, .rfl⟩, rfl, .inr (by rw [(hc.sock k hk1).1, hk2])⟩
    split
    · exact gone
    · -- the destination is live or port 53, a dead port, or unconnectable
      split
      case h_1 | h_2 => exact sent
      case h_3 hd =>
        have hg (x : Sock) : let y := if x.key == m then { x with poisoned := true } else x
            y.key = x.key ∧ y.id = x.id ∧ y.dest = x.dest := by split <;> simp
        exact .quiet
          ⟨{ hc.mapSocks _ hg with }, (hk.of_not_listening hc hs (by simp [hd])).mapSocks _ hg⟩
          ⟨⟨rfl, rfl, rfl⟩, .rfl, .update (fun x : Sock => { x with poisoned := true }) fun _ h => h⟩ rfl
      case h_4 hd => exact absurd hd (hc.sock k hk1).2.2

theorem sinkWrite_pipe {c s} {m : Meta} {k : Sock} {len : Nat} (hs : findSock s m = some k)
    (hp : k.poisoned = false) : (sinkWrite c s m len).1.pipe = s.pipe := by
  unfold sinkWrite
  rw [hs]
  simp only [hp, Bool.false_eq_true, if_false]
  split <;> rfl

theorem touchOut_key (now : Nat) (e : PipeEntry) : (touchOut now e).key = e.key := rfl
theorem touchOut_last (now : Nat) (e : PipeEntry) : (touchOut now e).last = now := rfl
theorem touchOut_pending (now : Nat) (e : PipeEntry) :
    (touchOut now e).pending = e.pending.map (· + 1) := rfl

/-- the state in which a datagram on a known flow is written -/
def touched (s : St) (m : Meta) : St :=
  { s with pipe := s.pipe.map fun e => if e.key == m then touchOut s.now e else e }

/-- the state in which a datagram on a new flow is written -/
def opened (c : Cfg) (s : St) (m : Meta) : St :=
  { s with pipe := touchOut s.now { key := m, last := s.now,
                                    pending := if c.kind m.dst == .dns then some 0 else none } :: s.pipe,
           socks := { key := m, id := s.nextId, dest := m.dst, poisoned := false } :: s.socks,
           nextId := s.nextId + 1 }

theorem stepDg_known {c s m len} (h : hasPipe s m = true) :
    stepDg c s m len = sinkWrite c (touched s m) m len := by
  unfold stepDg; rw [if_pos h]; rfl

theorem stepDg_new {c s m len} (h : hasPipe s m = false) (hs : findSock s m = none)
    (hk : c.kind m.dst ≠ .unconn) : stepDg c s m len = sinkWrite c (opened c s m) m len := by
  unfold stepDg
  rw [if_neg (by simp [h]), hs]
  dsimp only
  split
  · next hu => exact absurd hu hk
  · rfl

theorem stepDg_dropped {c s m len} (h : hasPipe s m = false) (hu : c.kind m.dst = .unconn) :
    stepDg c s m len = (s, {}) := by
  unfold stepDg
  rw [if_neg (by simp [h])]
  split
  · rfl
  · simp [hu]

theorem Core.touch {c s} (h : Core c s) (m : Meta) : Core c (touched s m) := by
  apply h.mapPipe
  intro x hx
  split
  · refine ⟨rfl, Nat.le_refl _, fun hp => h.pend x hx ?_⟩
    simpa [touchOut_pending] using hp
  · exact ⟨rfl, h.last x hx, h.pend x hx⟩

theorem Core.insert {c s} (h : Core c s) (hf : s.finished = false) (m : Meta) (hn : hasPipe s m = false)
    (hu : c.kind m.dst ≠ .unconn) (e : PipeEntry) (hek : e.key = m) (hel : e.last ≤ s.now)
    (hep : e.pending.isSome → c.kind m.dst = .dns) :
    Core c { s with pipe := e :: s.pipe,
                    socks := { key := m, id := s.nextId, dest := m.dst, poisoned := false } :: s.socks,
                    nextId := s.nextId + 1 } where
  keys := by simp [hek, h.keys]
  nodupK := nodup_cons PipeEntry.key hek hn h.nodupK
  nodupId := by
    simp only [List.map_cons, List.nodup_cons]
    refine ⟨fun hm => ?_, h.nodupId⟩
    obtain ⟨k, hk, hid⟩ := List.mem_map.1 hm
    exact Nat.ne_of_lt (h.sock k hk).2.1 hid
  sock := List.forall_mem_cons.2 ⟨⟨rfl, Nat.lt_succ_self _, hu⟩, fun k hk =>
    ⟨(h.sock k hk).1, Nat.lt_succ_of_lt (h.sock k hk).2.1, (h.sock k hk).2.2⟩⟩
  peerLt := fun p hp => Nat.lt_succ_of_lt (h.peerLt p hp)
  -- the new socket's id is one no server has seen
  peerKey := fun p hp => List.forall_mem_cons.2
    ⟨fun hid => absurd hid (Nat.ne_of_gt (h.peerLt p hp)), h.peerKey p hp⟩
  pend := List.forall_mem_cons.2 ⟨fun hp => hek ▸ hep hp, h.pend⟩
  tick := h.tick
  last := List.forall_mem_cons.2 ⟨hel, h.last⟩
  fin := fun hf' => by simp [hf] at hf'

theorem Known.insert {c s} (h : Known c s none) (m : Meta) (e : PipeEntry) (sk : Sock) (hsk : sk.key = m)
    (n : Nat) : Known c { s with pipe := e :: s.pipe, socks := sk :: s.socks, nextId := n } (some m) :=
  fun k hk hne hkind => by
    rcases List.mem_cons.1 hk with rfl | hk
    · simp [hsk] at hne
    · exact h k hk (by simp) hkind

theorem Core.opened {c s} (h : Core c s) (hf : s.finished = false) {m : Meta} (hn : hasPipe s m = false)
    (hu : c.kind m.dst ≠ .unconn) : Core c (opened c s m) := by
  apply h.insert hf m hn hu _ rfl (Nat.le_refl _)
  intro hp
  by_cases hd : c.kind m.dst = .dns
  · exact hd
  · simp [touchOut_pending, hd] at hp

theorem stepDg_out {c s m len} (h : Inv c s) (hf : s.finished = false) :
    DgOut c m len s (stepDg c s m len) := by
  cases hp : hasPipe s m with
  | true =>
    rw [stepDg_known hp]
    exact (sinkWrite_out (h.core.touch m) h.known.weaken).of
      ⟨⟨rfl, rfl, rfl⟩, .update (touchOut s.now) fun _ h => h, .rfl⟩ rfl
  | false =>
    by_cases hu : c.kind m.dst = .unconn
    · rw [stepDg_dropped hp hu]
      exact .quiet h .rfl rfl
    · rw [stepDg_new hp (h.core.findSock_none hp) hu]
      exact (sinkWrite_out (h.core.opened hf hp hu) (h.known.insert m _ _ rfl _)).of
        ⟨⟨rfl, rfl, rfl⟩, .cons rfl, .cons rfl⟩ rfl

theorem touchIn_key (now : Nat) (e : PipeEntry) : (touchIn now e).1.key = e.key := by
  unfold touchIn; split <;> rfl
theorem touchIn_last (now : Nat) (e : PipeEntry) : (touchIn now e).1.last = now := by
  unfold touchIn; split <;> rfl
theorem touchIn_pending (now : Nat) (e : PipeEntry) :
    (touchIn now e).1.pending.isSome → e.pending.isSome := by
  unfold touchIn; split <;> simp_all

/-- what a reply with flow tag `t` does once the socket it arrives on is known to be that of flow `m` -/
def replied (s : St) (m t : Meta) (len : Nat) : St × Obs :=
  let s := { s with down := s.down + len }
  let obs : Obs := { cli := [(m, t, len)] }
  match s.pipe.find? (·.key == m) with
  | none => (s, obs)
  | some e =>
    let (e', done) := touchIn s.now e
    if done then (removeSock (removePipe s m) m, obs)
    else ({ s with pipe := s.pipe.map fun x => if x.key == m then e' else x }, obs)

theorem replied_snd (s : St) (m t : Meta) (len : Nat) : (replied s m t len).2 = { cli := [(m, t, len)] } := by
  unfold replied
  dsimp only
  split
  · rfl
  · split <;> rfl

theorem replied_some {s : St} {m t : Meta} {e : PipeEntry} {len : Nat} (he : pipeEntry s m = some e) :
    replied s m t len =
      (if (touchIn s.now e).2 then keep { s with down := s.down + len } (· != m)
        else { s with down := s.down + len,
                      pipe := s.pipe.map fun x => if x.key == m then (touchIn s.now e).1 else x },
        { cli := [(m, t, len)] }) := by
  simp only [replied, show s.pipe.find? (·.key == m) = some e from he]
  split <;> rfl

/-- the socket, if it is still open, from which the server of flow tag `m` last saw that flow come -/
def remembered (s : St) (m : Meta) : Option Sock :=
  (s.peers.find? (·.1 == m)).bind fun p => s.socks.find? (·.id == p.2)

theorem stepReply_eq (c : Cfg) (s : St) (m : Meta) (len : Nat) :
    stepReply c s m len = match remembered s m with
      | none => (s, {})
      | some k => if c.kind k.dest = .live ∨ c.kind k.dest = .dns then replied s k.key m len else (s, {}) := by
  unfold stepReply remembered
  cases s.peers.find? (·.1 == m) with
  | none => rfl
  | some p =>
    dsimp only [Option.bind_some]
    cases s.socks.find? (·.id == p.2) with
    | none => rfl
    | some k =>
      dsimp only
      cases c.kind k.dest <;> rfl

/-- ids are not reused, so the socket a server remembers for flow `m` is still the socket of `m` -/
theorem remembered_key {c s m k} (h : Inv c s) (hr : remembered s m = some k) : k.key = m := by
  obtain ⟨p, hp, hk⟩ := Option.bind_eq_some_iff.1 hr
  obtain ⟨hp1, hp2⟩ := find?_key_some Prod.fst hp
  obtain ⟨hk1, hk2⟩ := find?_key_some Sock.id hk
  exact (h.core.peerKey p hp1 k hk1 hk2).trans hp2

theorem stepReply_live {c s m k len} (h : Inv c s) (hs : findSock s m = some k)
    (hkind : c.kind m.dst = .live ∨ c.kind m.dst = .dns) : stepReply c s m len = replied s m m len := by
  obtain ⟨hkm, hkk⟩ := findSock_some hs
  have hd : k.dest = m.dst := by rw [(h.core.sock k hkm).1, hkk]
  have hr : remembered s m = some k := by
    rw [remembered, ← hkk, h.known k hkm (by simp) (hd ▸ hkind)]
    exact find?_key_of_mem_nodup h.core.nodupId hkm
  rw [stepReply_eq, hr]
  exact (if_pos (hd ▸ hkind)).trans (by rw [hkk])

/-- what a reply of `len` bytes on flow `m` does to `s`: the invariant is kept, the reply is local
to the flow and opens no socket; it is lost, or delivered labelled `m` and counted -/
structure ReplyOut (c : Cfg) (m : Meta) (len : Nat) (s : St) (r : St × Obs) : Prop where
  inv : Inv c r.1
  loc : Local m r.1 s
  socks : ∀ k ∈ r.1.socks, k ∈ s.socks
  out : r.2 = {} ∧ r.1.down = s.down ∨ r.2 = { cli := [(m, m, len)] } ∧ r.1.down = s.down + len

theorem ReplyOut.lost {c s m len} (h : Inv c s) : ReplyOut c m len s (s, {}) :=
  ⟨h, .rfl, fun _ hk => hk, .inl ⟨rfl, rfl⟩⟩

theorem replied_out {c s m len} (h : Inv c s) : ReplyOut c m len s (replied s m m len) := by
  have hd : Inv c { s with down := s.down + len } := ⟨{ h.core with }, h.known⟩
  unfold replied
  dsimp only
  split
  · exact ⟨hd, ⟨⟨rfl, rfl, rfl⟩, .rfl, .rfl⟩, fun _ hk => hk, .inr ⟨rfl, rfl⟩⟩
  · next e he =>
    obtain ⟨he1, he2⟩ := pipeEntry_some he
    split
    · exact ⟨hd.restrict (· != m), ⟨⟨rfl, rfl, rfl⟩, .remove, .remove⟩,
        fun _ hk => (List.mem_filter.1 hk).1, .inr ⟨rfl, rfl⟩⟩
    · refine ⟨⟨hd.core.mapPipe _ fun x hx => ?_, h.known⟩,
        ⟨⟨rfl, rfl, rfl⟩, .update (fun _ => (touchIn s.now e).1) fun _ _ => by rw [touchIn_key, he2],
          .rfl⟩, fun _ hk => hk, .inr ⟨rfl, rfl⟩⟩
      split
      · next hxk =>
        have hxk : x.key = m := by simpa using hxk
        refine ⟨by rw [touchIn_key, he2, hxk], by rw [touchIn_last]; exact Nat.le_refl _, fun hp => ?_⟩
        rw [hxk, ← he2]
        exact h.core.pend e he1 (touchIn_pending _ _ hp)
      · exact ⟨rfl, h.core.last x hx, h.core.pend x hx⟩

/-- the flows that have been idle for longer than the timeout at time `now` -/
def expiredKeys (c : Cfg) (s : St) (now : Nat) : List Meta :=
  (s.pipe.filter fun e => e.last + c.timeout < now).map (·.key)

/-- keys being unique, dropping the expired entries is a restriction by key, like the sockets' -/
theorem expire_eq {c s} (hn : (s.pipe.map (·.key)).Nodup) :
    expire c s = keep s (fun k => !(expiredKeys c s s.now).contains k) := by
  unfold expire keep expiredKeys
  dsimp only
  rw [filter_not hn]

theorem contains_expiredKeys {c s m e} (hn : (s.pipe.map (·.key)).Nodup) (he : pipeEntry s m = some e)
    (now : Nat) : (expiredKeys c s now).contains m = decide (e.last + c.timeout < now) := by
  obtain ⟨he1, rfl⟩ := pipeEntry_some he
  exact contains_map_filter hn _ he1

/-- the state in which the timer fires after `ms` -/
def ticked (c : Cfg) (s : St) (ms : Nat) : St :=
  { s with now := s.now + ms, nextTick := s.now + ms + c.timeout / 4 }

theorem stepAdv_eq {c s} (hn : (s.pipe.map (·.key)).Nodup) (ms : Nat) :
    stepAdv c s ms =
      if s.nextTick ≤ s.now + ms then
        keep (ticked c s ms) (fun k => !(expiredKeys c s (s.now + ms)).contains k)
      else { s with now := s.now + ms } := by
  unfold stepAdv
  dsimp only
  split
  · rw [expire_eq (s := { s with now := s.now + ms }) hn]; rfl
  · rfl

/-- what an advance of the clock by `ms` does to `s`: the invariant is kept, `finished` and the downward
count stay, no socket is opened; the timer, if it was due, is set a period ahead -/
structure AdvOut (c : Cfg) (ms : Nat) (s s' : St) : Prop where
  inv : Inv c s'
  fin : s'.finished = s.finished
  down : s'.down = s.down
  now : s'.now = s.now + ms
  tick : s'.nextTick = if s.nextTick ≤ s.now + ms then s.now + ms + c.timeout / 4 else s.nextTick
  socks : ∀ k ∈ s'.socks, k ∈ s.socks

theorem stepAdv_out {c s} (h : Inv c s) (ms : Nat) : AdvOut c ms s (stepAdv c s ms) := by
  have hl (e) (he : e ∈ s.pipe) : e.last ≤ s.now + ms := Nat.le_trans (h.core.last e he) (Nat.le_add_right _ _)
  rw [stepAdv_eq h.core.nodupK]
  split
  · next ht =>
    have hc : Core c (ticked c s ms) := { h.core with tick := Nat.le_refl _, last := hl }
    exact ⟨⟨hc.restrict _, Known.restrict (s := ticked c s ms) h.known _⟩,
      rfl, rfl, rfl, (if_pos ht).symm, fun k hk => (List.mem_filter.1 hk).1⟩
  · next ht =>
    exact ⟨⟨{ h.core with
          tick := Nat.le_trans h.core.tick (Nat.add_le_add_right (Nat.le_add_right _ _) _), last := hl },
        h.known⟩,
      rfl, rfl, rfl, (if_neg ht).symm, fun _ hk => hk⟩

theorem stepAdv_kept {c s ms m e} (hn : (s.pipe.map (·.key)).Nodup)
    (h' : pipeEntry (stepAdv c s ms) m = some e) :
    pipeEntry s m = some e ∧ (s.nextTick ≤ s.now + ms → s.now + ms ≤ e.last + c.timeout) := by
  rw [stepAdv_eq hn] at h'
  split at h'
  · rw [(keep_view _ _ m).1] at h'
    obtain ⟨hq, he⟩ := Option.ite_none_right_eq_some.1 h'
    rw [contains_expiredKeys hn he] at hq
    exact ⟨he, fun _ => by simpa using hq⟩
  · next ht => exact ⟨h', fun h => absurd h ht⟩

theorem stepAdv_fresh {c s ms m e} (hn : (s.pipe.map (·.key)).Nodup) (he : pipeEntry s m = some e)
    (hfresh : s.now + ms ≤ e.last + c.timeout) :
    pipeEntry (stepAdv c s ms) m = some e ∧ findSock (stepAdv c s ms) m = findSock s m := by
  rw [stepAdv_eq hn]
  split
  · have hq : (!decide (e.last + c.timeout < s.now + ms)) = true := by simpa using hfresh
    have v := keep_view (ticked c s ms) (fun k => !(expiredKeys c s (s.now + ms)).contains k) m
    rw [contains_expiredKeys hn he, if_pos hq, if_pos hq] at v
    exact ⟨v.1.trans he, v.2⟩
  · exact ⟨he, rfl⟩

theorem step_of_finished {c s} (hf : s.finished = true) (op : Op) : step c s op = (s, {}) := if_pos hf

theorem step_dg {c s} (hf : s.finished = false) (m : Meta) (len : Nat) :
    step c s (.dg m len) = stepDg c s m len := if_neg (Bool.eq_false_iff.1 hf)

theorem step_reply {c s} (hf : s.finished = false) (m : Meta) (len : Nat) :
    step c s (.reply m len) = stepReply c s m len := if_neg (Bool.eq_false_iff.1 hf)

theorem step_adv {c s} (hf : s.finished = false) (ms : Nat) :
    step c s (.adv ms) = (stepAdv c s ms, {}) := if_neg (Bool.eq_false_iff.1 hf)

theorem step_close {c s} (hf : s.finished = false) :
    step c s .close = ({ s with finished := true, pipe := [], socks := [] }, {}) :=
  if_neg (Bool.eq_false_iff.1 hf)

theorem step_dg_out {c s} (h : Inv c s) (m : Meta) (len : Nat) :
    DgOut c m len s (step c s (.dg m len)) := by
  cases hf : s.finished with
  | true => rw [step_of_finished hf]; exact .quiet h .rfl rfl
  | false => rw [step_dg hf]; exact stepDg_out h hf

theorem step_dg_unconn {c s} (h : Inv c s) {m : Meta} (hk : c.kind m.dst = .unconn) (len : Nat) :
    step c s (.dg m len) = (s, {}) := by
  cases hf : s.finished with
  | true => exact step_of_finished hf _
  | false => rw [step_dg hf]; exact stepDg_dropped (h.core.hasPipe_unconn hk) hk

theorem step_reply_out {c s} (h : Inv c s) (m : Meta) (len : Nat) :
    ReplyOut c m len s (step c s (.reply m len)) := by
  cases hf : s.finished with
  | true => rw [step_of_finished hf]; exact .lost h
  | false =>
    rw [step_reply hf, stepReply_eq]
    split
    · exact .lost h
    · next k hr =>
      obtain rfl := remembered_key h hr
      split
      · exact replied_out h
      · exact .lost h

theorem step_reply_dns {c s} (h : Inv c s) {m : Meta} {e : PipeEntry} {len : Nat}
    (he : pipeEntry s m = some e) (hp : e.pending.isSome) : step c s (.reply m len) = replied s m m len := by
  obtain ⟨k, hs, hf⟩ := h.core.sock_of_entry he
  rw [step_reply hf, stepReply_live h hs (.inr ((pipeEntry_some he).2 ▸ h.core.pend e (pipeEntry_some he).1 hp))]

/-- a datagram goes to its destination, a reply is labelled with the flow the server answered -/
def Routed (o : Obs) : Prop := (∀ x ∈ o.srv, x.1 = x.2.1.dst) ∧ (∀ x ∈ o.cli, x.1 = x.2.1)

theorem Routed.nil : Routed {} := ⟨List.forall_mem_nil _, List.forall_mem_nil _⟩
theorem Routed.srv (m : Meta) (len : Nat) : Routed { srv := [(m.dst, m, len)] } :=
  ⟨List.forall_mem_singleton.2 rfl, List.forall_mem_nil _⟩
theorem Routed.cli (m : Meta) (len : Nat) : Routed { cli := [(m, m, len)] } :=
  ⟨List.forall_mem_nil _, List.forall_mem_singleton.2 rfl⟩

/-- what any one operation does, whatever the state: the invariant is kept, only `close` ends the
multiplexer, the downward count grows by what is delivered, what is observed is routed correctly,
and a socket is a socket of a flow that had one or of the flow the datagram is on -/
structure StepOut (c : Cfg) (s : St) (op : Op) (r : St × Obs) : Prop where
  inv : Inv c r.1
  fin : op ≠ .close → r.1.finished = s.finished
  down : r.1.down = s.down + (r.2.cli.map (·.2.2)).sum
  routed : Routed r.2
  socks : ∀ k ∈ r.1.socks, k.key ∈ s.socks.map (·.key) ∨ ∃ len, op = .dg k.key len

theorem step_out {c s} (h : Inv c s) (op : Op) : StepOut c s op (step c s op) := by
  cases hf : s.finished with
  | true =>
    rw [step_of_finished hf]
    exact ⟨h, fun _ => rfl, rfl, .nil, fun k hk => .inl (List.mem_map_of_mem hk)⟩
  | false =>
    cases op with
    | dg m len =>
      have o := step_dg_out h m len
      refine ⟨o.inv, fun _ => o.loc.frame.finished, ?_, ?_, fun k hk => ?_⟩
      · rcases o.obs with e | e <;> rw [o.down, e] <;> rfl
      · rcases o.obs with e | e <;> rw [e]
        · exact .nil
        · exact .srv m len
      · exact (o.loc.sock_key hk).symm.imp_right fun e => ⟨len, by rw [e]⟩
    | reply m len =>
      have o := step_reply_out h m len
      refine ⟨o.inv, fun _ => o.loc.frame.finished, ?_, ?_, fun k hk => .inl (List.mem_map_of_mem (o.socks k hk))⟩
      · rcases o.out with ⟨e, d⟩ | ⟨e, d⟩ <;> rw [e, d] <;> simp
      · rcases o.out with ⟨e, _⟩ | ⟨e, _⟩ <;> rw [e]
        · exact .nil
        · exact .cli m len
    | adv ms =>
      rw [step_adv hf]
      have o := stepAdv_out h ms
      exact ⟨o.inv, fun _ => o.fin, o.down, .nil, fun k hk => .inl (List.mem_map_of_mem (o.socks k hk))⟩
    | close =>
      rw [step_close hf]
      exact ⟨⟨{ h.core with keys := rfl, nodupK := .nil, nodupId := .nil, sock := List.forall_mem_nil _,
                            peerKey := fun _ _ => List.forall_mem_nil _, pend := List.forall_mem_nil _,
                            last := List.forall_mem_nil _, fin := fun _ => ⟨rfl, rfl⟩ },
          List.forall_mem_nil _⟩, fun h => absurd rfl h, rfl, .nil, List.forall_mem_nil _⟩

theorem step_inv {c s} (h : Inv c s) (op : Op) : Inv c (step c s op).1 := (step_out h op).inv

theorem run_append_fst (c : Cfg) (s : St) (a b : List Op) :
    (run c s (a ++ b)).1 = (run c (run c s a).1 b).1 := by
  induction a generalizing s with
  | nil => rfl
  | cons op a ih => exact ih _

theorem run_append_snd (c : Cfg) (s : St) (a b : List Op) :
    (run c s (a ++ b)).2 = (run c s a).2 ++ (run c (run c s a).1 b).2 := by
  induction a generalizing s with
  | nil => rfl
  | cons op a ih => simp [run, ih]

/-- what `StepOut` says of one operation, of a history -/
structure RunOut (c : Cfg) (s : St) (ops : List Op) (r : St × List Obs) : Prop where
  inv : Inv c r.1
  fin : (∀ op ∈ ops, op ≠ .close) → r.1.finished = s.finished
  down : r.1.down = s.down + (r.2.map fun o => (o.cli.map (·.2.2)).sum).sum
  routed : ∀ o ∈ r.2, Routed o
  socks : ∀ k ∈ r.1.socks, k.key ∈ s.socks.map (·.key) ∨ ∃ len, .dg k.key len ∈ ops

theorem run_out {c s} (h : Inv c s) (ops : List Op) : RunOut c s ops (run c s ops) := by
  induction ops generalizing s with
  | nil => exact ⟨h, fun _ => rfl, rfl, List.forall_mem_nil _, fun k hk => .inl (List.mem_map_of_mem hk)⟩
  | cons op ops ih =>
    have o := step_out h op
    have r := ih o.inv
    refine ⟨r.inv, fun hc => ?_, ?_, List.forall_mem_cons.2 ⟨o.routed, r.routed⟩, fun k hk => ?_⟩
    · exact (r.fin fun x hx => hc x (List.mem_cons_of_mem _ hx)).trans (o.fin (hc op List.mem_cons_self))
    · exact r.down.trans (by rw [o.down, Nat.add_assoc]; rfl)
    · rcases r.socks k hk with h1 | ⟨len, h1⟩
      · obtain ⟨k0, hk0, e⟩ := List.mem_map.1 h1
        exact e ▸ (o.socks k0 hk0).imp_right fun ⟨len, e'⟩ => ⟨len, e' ▸ List.mem_cons_self⟩
      · exact .inr ⟨len, List.mem_cons_of_mem _ h1⟩

/-- the state after a history -/
def after (c : Cfg) (ops : List Op) : St := (runFrom c ops).1

theorem runFrom_inv (c : Cfg) (ops : List Op) : Inv c (after c ops) := (run_out (inv_init c) ops).inv

theorem after_append (c : Cfg) (pre ops : List Op) : after c (pre ++ ops) = (run c (after c pre) ops).1 :=
  run_append_fst ..

theorem after_snoc (c : Cfg) (ops : List Op) (op : Op) : after c (ops ++ [op]) = (step c (after c ops) op).1 := by
  rw [after_append]; rfl

/-! Expiry of an idle flow: `Idle` is kept by every operation that does not touch the flow, and when the history is
used up no entry can be `Due`, so the flow is not in the table. -/

/-- the operation concerns flow `m` -/
def touches (m : Meta) : Op → Bool
  | .dg m' _ => m' == m
  | .reply m' _ => m' == m
  | .adv _ => false
  | .close => false

def advSum : List Op → Nat
  | [] => 0
  | .adv ms :: r => ms + advSum r
  | _ :: r => advSum r

/-- entry `e` has to be released by the time `d`, at least a timeout and a timer period after its last activity;
the timer has not yet had to do it, and the advances in `ops` take the clock past `d` -/
structure Due (c : Cfg) (d : Nat) (ops : List Op) (s : St) (e : PipeEntry) : Prop where
  last : e.last + c.timeout + c.timeout / 4 ≤ d
  tick : s.nextTick ≤ d
  now : s.now ≤ d
  past : d < s.now + advSum ops

def Idle (c : Cfg) (d : Nat) (m : Meta) (ops : List Op) (s : St) : Prop :=
  ∀ e, pipeEntry s m = some e → Due c d ops s e

theorem step_idle {c s d} {m : Meta} {op : Op} {ops : List Op} (h : Inv c s)
    (hi : Idle c d m (op :: ops) s) (hu : touches m op = false) : Idle c d m ops (step c s op).1 := by
  have loc : ∀ {m'} {s' : St}, Local m' s' s → m ≠ m' → advSum (op :: ops) = advSum ops →
      Idle c d m ops s' := fun l hne ha e he => by
    have i := hi e ((l.other m hne).1 ▸ he)
    exact ⟨i.last, l.frame.nextTick ▸ i.tick, l.frame.now ▸ i.now, l.frame.now ▸ ha ▸ i.past⟩
  have gone : ∀ {s' : St}, s'.pipe = [] → Idle c d m ops s' := fun hp e he => by
    rw [pipeEntry, hp] at he; cases he
  cases hf : s.finished with
  | true => rw [step_of_finished hf]; exact gone (h.core.fin hf).1
  | false =>
    cases op with
    | dg m' len => exact loc (step_dg_out h m' len).loc (fun e => by simp [touches, e] at hu) rfl
    | reply m' len => exact loc (step_reply_out h m' len).loc (fun e => by simp [touches, e] at hu) rfl
    | adv ms =>
      rw [step_adv hf]
      intro e he
      have o := stepAdv_out h ms
      obtain ⟨h0, hx⟩ := stepAdv_kept h.core.nodupK he
      have i := hi e h0
      have past : d < (stepAdv c s ms).now + advSum ops := o.now ▸ Nat.add_assoc s.now ms _ ▸ i.past
      by_cases ht : s.nextTick ≤ s.now + ms
      · -- the timer fired and kept the entry, which was fresh
        have hle : s.now + ms + c.timeout / 4 ≤ d := Nat.le_trans (Nat.add_le_add_right (hx ht) _) i.last
        exact { i with tick := by rw [o.tick, if_pos ht]; exact hle
                       now := o.now ▸ Nat.le_trans (Nat.le_add_right _ _) hle, past }
      · -- the timer is still to come
        exact { i with tick := by rw [o.tick, if_neg ht]; exact i.tick
                       now := o.now ▸ Nat.le_of_lt (Nat.lt_of_lt_of_le (Nat.lt_of_not_le ht) i.tick), past }
    | close => rw [step_close hf]; exact gone rfl

theorem run_idle {c d} {m : Meta} {ops : List Op} {s : St} (h : Inv c s)
    (hu : ∀ op ∈ ops, touches m op = false) (hi : Idle c d m ops s) : Idle c d m [] (run c s ops).1 := by
  induction ops generalizing s with
  | nil => exact hi
  | cons op ops ih =>
    have hu := List.forall_mem_cons.1 hu
    exact ih (step_inv h op) hu.2 (step_idle h hi hu.1)

/-- **expiry**: a flow that no operation concerns while more than a timeout and a timer period
pass is gone afterwards -/
theorem idle_released {c s} (h : Inv c s) (ops : List Op) (m : Meta)
    (hu : ∀ op ∈ ops, touches m op = false)
    (hd : c.timeout + c.timeout / 4 < advSum ops) :
    hasPipe (run c s ops).1 m = false ∧ findSock (run c s ops).1 m = none := by
  -- at the latest, the flow was last active now
  have hi : Idle c (s.now + c.timeout + c.timeout / 4) m ops s := fun e he =>
    { last := Nat.add_le_add_right (Nat.add_le_add_right (h.core.last e (pipeEntry_some he).1) _) _
      tick := Nat.le_trans h.core.tick (Nat.add_le_add_right (Nat.le_add_right _ _) _)
      now := Nat.le_trans (Nat.le_add_right _ _) (Nat.le_add_right _ _)
      past := Nat.add_assoc .. ▸ Nat.add_lt_add_left hd _ }
  have hp : hasPipe (run c s ops).1 m = false := by
    rw [hasPipe_eq]
    cases he : pipeEntry (run c s ops).1 m with
    | none => rfl
    | some e =>
      -- were it still there, the clock would be both before and past the point of release
      have i := run_idle h hu hi e he
      exact absurd i.past (Nat.not_lt.2 i.now)
  exact ⟨hp, (run_out h ops).inv.core.findSock_none hp⟩

end TT.UdpFlows
