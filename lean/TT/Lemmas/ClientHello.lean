import TT.Model.ClientHello
import TT.Lemmas.Bytes
/-!
For C12.  `extract` in two layers (record: `extract_cons`, handshake: `firstHello`); what each layer makes of the record
the specification builds, and conversely what an answer says about the input; the read loop on a stream that begins with
a record; the replay of the prebuffer.
-/
namespace TT.CH
open TT TT.Bytes

/-- the handshake layer of `extract`: what it makes of the payload of a complete handshake record -/
def firstHello (payload : Bytes) : Extraction :=
  match payload with
  | ht :: h0 :: h1 :: h2 :: body =>
    let hl := (h0 * 256 + h1) * 256 + h2
    if body.length < hl then .notFound
    else if ht == 1 then
      match parseClientHelloBody (body.take hl) with
      | some r => .found r
      | none => .notFound
    else .notFound
  | _ => .notFound

-- `rfl` sees through the `match` functions of the two sides only with smart unfolding off
set_option smartUnfolding false in
theorem extract_cons (t v0 v1 l0 l1 : Nat) (rest : Bytes) :
    extract (t :: v0 :: v1 :: l0 :: l1 :: rest) =
      if l0 * 256 + l1 > maxRecordLen then .notFound
      else if rest.length < l0 * 256 + l1 then .needMore
      else if t != 22 then .notFound
      else firstHello (rest.take (l0 * 256 + l1)) := rfl

theorem length_eq_two {l : Bytes} (h : l.length = 2) : ∃ a b, l = [a, b] := by
  match l, h with
  | [a, b], _ => exact ⟨a, b, rfl⟩

theorem chRecord_eq (a b : Nat) (version random sid suites comps exts : Bytes) :
    chRecord [a, b] version random sid suites comps exts =
      22 :: a :: b :: (u16be (4 + (chBody version random sid suites comps exts).length) ++
        (1 :: (u24be (chBody version random sid suites comps exts).length ++
          chBody version random sid suites comps exts))) := by
  simp [chRecord]

theorem parse_chBody {version random sid suites : Bytes} (comps exts : Bytes)
    (hv : version.length = 2) (hr : random.length = 32) (hs : sid.length ≤ 32)
    (hc : suites.length % 2 = 0) (hc2 : suites.length < 65536) :
    parseClientHelloBody (chBody version random sid suites comps exts) = some random := by
  obtain ⟨v0, v1, rfl⟩ := length_eq_two hv
  unfold chBody
  -- whatever follows the compression methods, the parser does not look at it
  generalize (if exts.isEmpty then [] else u16be exts.length ++ exts) = extpart
  simp only [parseClientHelloBody, u16be, List.append_assoc, List.cons_append, List.nil_append]
  -- 35 bytes: the version, the random and the first byte behind it are enough (`simp` would add up the whole body)
  rw [if_neg (by rw [List.length_cons, List.length_cons, List.length_append, hr, List.length_cons]; omega)]
  simp only [List.drop_succ_cons, List.drop_zero, List.drop_left' hr, List.take_left' hr, List.drop_left, u16_rt hc2]
  -- left are the checks of the session id, the cipher suites and the compression methods
  simpa using ⟨hs, fun _ => hc⟩

@[simp] theorem u24be_length (n : Nat) : (u24be n).length = 3 := rfl

/-- the upper two bytes are those of `n / 256` -/
theorem u24_rt {n : Nat} (h : n < 16777216) : (n / 65536 % 256 * 256 + n / 256 % 256) * 256 + n % 256 = n := by
  rw [show n / 65536 = n / 256 / 256 from (Nat.div_div_eq_div_mul n 256 256).symm,
    u16_rt (Nat.div_lt_of_lt_mul h), Nat.div_add_mod']

theorem firstHello_hello {body r : Bytes} (hp : parseClientHelloBody body = some r) (hl : body.length < 16777216) :
    firstHello (1 :: (u24be body.length ++ body)) = .found r := by
  simp [firstHello, u24be, u24_rt hl, hp]

theorem extract_record {a b n : Nat} {payload suffix : Bytes} (hn : n = payload.length) (hfit : n ≤ maxRecordLen) :
    extract (22 :: a :: b :: (u16be n ++ payload) ++ suffix) = firstHello payload := by
  simp only [u16be, List.cons_append, List.nil_append]
  rw [extract_cons, u16_rt (Nat.lt_of_le_of_lt hfit (by decide)), if_neg (Nat.not_lt.2 hfit),
    if_neg (by rw [List.length_append, hn]; exact Nat.not_lt.2 (Nat.le_add_right _ _)), if_neg (by decide),
    List.take_left' hn.symm]

theorem extract_take_eq_needMore {t a b n : Nat} {payload : Bytes} {k : Nat}
    (hn : n = payload.length) (hfit : n ≤ maxRecordLen) (hk : k < 5 + n) :
    extract ((t :: a :: b :: (u16be n ++ payload)).take k) = .needMore := by
  match k, hk with
  | 0, _ | 1, _ | 2, _ | 3, _ | 4, _ => rfl
  | k + 5, hk =>
    rw [u16be, List.cons_append, List.cons_append, List.nil_append]
    simp only [List.take_succ_cons]
    rw [extract_cons, u16_rt (Nat.lt_of_le_of_lt hfit (by decide)), if_neg (Nat.not_lt.2 hfit),
      if_pos (by rw [List.length_take]; omega)]

theorem parseClientHelloBody_eq_some {b : Bytes} :
    ∀ {r}, parseClientHelloBody b = some r → r = (b.drop 2).take 32 ∧ 35 ≤ b.length := by
  -- Every leaf is `none` or the random field, and the first check is the length.
  -- `→` and not a bound `h`: `fun_cases` rewrites the call in the goal only, and `cases h` would fail.
  fun_cases parseClientHelloBody b <;> intro r h <;> cases h
  exact ⟨rfl, Nat.le_of_not_lt ‹_›⟩

theorem firstHello_found {p : Bytes} : ∀ {r}, firstHello p = .found r →
    ∃ h0 h1 h2 body, p = 1 :: h0 :: h1 :: h2 :: body ∧ 35 ≤ body.length ∧ r = (body.drop 2).take 32 := by
  fun_cases firstHello p <;> intro r h <;> cases h
  next ht h0 h1 h2 body _ hlen ht1 _ hp =>
    obtain ⟨hr, h35⟩ := parseClientHelloBody_eq_some hp
    rw [List.length_take] at h35
    refine ⟨h0, h1, h2, body, by rw [eq_of_beq ht1], Nat.le_trans h35 (Nat.min_le_right _ _), ?_⟩
    rw [hr, List.drop_take, List.take_take, Nat.min_eq_left (by omega)]

theorem extract_cons_found {t v0 v1 l0 l1 : Nat} {rest r : Bytes} :
    extract (t :: v0 :: v1 :: l0 :: l1 :: rest) = .found r →
      t = 22 ∧ firstHello (rest.take (l0 * 256 + l1)) = .found r := by
  intro h
  rw [extract_cons] at h
  -- the three checks in front of the handshake layer answer otherwise
  split at h
  · cases h
  split at h
  · cases h
  split at h
  · cases h
  next ht => exact ⟨by simpa using ht, h⟩

theorem extract_of_readLoop_eq_some {avail : List Nat} {pre stream r : Bytes}
    (h : (readLoop avail pre stream).1 = some r) :
    extract (readLoop avail pre stream).2.1 = .found r := by
  fun_induction readLoop avail pre stream with
  | case3 _ _ _ _ _ _ hex => cases h; exact hex
  | case6 _ _ _ _ _ _ _ _ _ ih => exact ih h
  | _ => cases h

/-- The size of one read: the `n` that `readLoop` binds with `let`, as a function of what it depends on.  The `n` that
`extract_lets` or `fun_induction readLoop` hands out is this by definition, so the bounds below apply to it as it stands. -/
def readSize (a l s : Nat) : Nat := min (min (max a 1) (min readChunk (maxPrebuffer - l))) s

theorem readSize_le (a l s : Nat) :
    readSize a l s ≤ s ∧ readSize a l s ≤ readChunk ∧ readSize a l s ≤ maxPrebuffer - l :=
  have h := Nat.le_trans (Nat.min_le_left _ s) (Nat.min_le_right (max a 1) _)
  ⟨Nat.min_le_right _ _, Nat.le_trans h (Nat.min_le_left _ _), Nat.le_trans h (Nat.min_le_right _ _)⟩

theorem readSize_pos {a l s : Nat} (hl : l < maxPrebuffer) (hs : 0 < s) : 0 < readSize a l s :=
  Nat.lt_min.2 ⟨Nat.lt_min.2 ⟨Nat.lt_of_lt_of_le Nat.one_pos (Nat.le_max_right a 1),
    Nat.lt_min.2 ⟨by decide, Nat.sub_pos_of_lt hl⟩⟩, hs⟩

/-- what `extract` says of a prefix `pre` of a stream that begins with `record` -/
theorem extract_of_prefix {record random : Bytes}
    (hpre : ∀ n, n < record.length → extract (record.take n) = .needMore)
    (hex : ∀ suffix, extract (record ++ suffix) = .found random)
    {pre stream suffix : Bytes} (hcat : pre ++ stream = record ++ suffix) :
    extract pre = if pre.length < record.length then .needMore else .found random := by
  have hpe : pre = (record ++ suffix).take pre.length := by rw [← hcat, List.take_left]
  split
  · rename_i hlt
    rw [hpe, List.take_append_of_le_length (Nat.le_of_lt hlt)]
    exact hpre _ hlt
  · rename_i hge
    rw [hpe, take_append_ge (Nat.le_of_not_lt hge)]
    exact hex _

/-- `loop_segmentation_invariant` for any record that `extract` answers when it is complete and not before, with the
loop started at any prebuffer `pre` such that `pre ++ stream = record ++ suffix`: the induction over the schedule needs
`pre` general. -/
theorem readLoop_finds_record {record random : Bytes}
    (hpre : ∀ n, n < record.length → extract (record.take n) = .needMore)
    (hex : ∀ suffix, extract (record ++ suffix) = .found random)
    (hfit : record.length + readChunk ≤ maxPrebuffer)
    {suffix : Bytes} {avail : List Nat} {pre stream : Bytes}
    (hcat : pre ++ stream = record ++ suffix)
    (hcap : pre.length < maxPrebuffer)
    (hlen : avail.length > record.length - pre.length) :
    (readLoop avail pre stream).1 = some random := by
  induction avail generalizing pre stream with
  | nil => cases hlen
  | cons a avail ih =>
    have hlens := congrArg List.length hcat
    simp only [List.length_append, List.length_cons] at hlens hlen
    rw [readLoop, if_neg (by simpa using hcap), extract_of_prefix hpre hex hcat]
    by_cases hlt : pre.length < record.length
    · -- the prebuffer is short of the record, so the stream is not at its end: the read takes `n > 0` bytes
      rw [if_pos hlt]
      extract_lets readLen n
      have h0 : 0 < n := readSize_pos hcap (by omega)
      obtain ⟨h1, h2, -⟩ : n ≤ stream.length ∧ n ≤ readChunk ∧ _ := readSize_le a pre.length stream.length
      -- `omega` would look into the value of `n` and split on its `min`s and `max`
      clear_value n
      rw [if_neg (by simpa using Nat.ne_of_gt h0)]
      apply ih
      · rw [List.append_assoc, List.take_append_drop, hcat]
      · rw [List.length_append, List.length_take_of_le h1]; omega
      · rw [List.length_append, List.length_take_of_le h1]; omega
    · rw [if_neg hlt]

/-- What the reads return is a prefix of the prebuffer from `pos` on, followed by the socket's bytes; with positive
buffer sizes each read delivers at least a byte as long as there is one. -/
theorem replay_take (caps : List Nat) (pre rest : Bytes) (pos : Nat) (hp : pos ≤ pre.length) :
    ∃ k, (replayReads caps pre pos rest).flatten = (pre.drop pos ++ rest).take k ∧
      ((∀ c ∈ caps, 0 < c) → caps.length ≤ k ∨ pre.length - pos + rest.length ≤ k) := by
  induction caps generalizing pos rest with
  | nil => exact ⟨0, by simp [replayReads], fun _ => .inl (Nat.le_refl 0)⟩
  | cons cap caps ih =>
    unfold replayReads
    split
    · next hlt =>
      generalize hn : min (pre.length - pos) cap = n
      have hle : n ≤ pre.length - pos := hn ▸ Nat.min_le_left ..
      obtain ⟨k, hk, hb⟩ := ih rest (pos + n) (by omega)
      refine ⟨n + k, ?_, fun hc => ?_⟩
      · have hd : n ≤ (pre.drop pos).length := List.length_drop ▸ hle
        rw [List.flatten_cons, hk, List.take_add, List.take_append_of_le_length hd,
          List.drop_append_of_le_length hd, List.drop_drop]
      · have h0 : 0 < n := hn ▸ Nat.lt_min.2 ⟨Nat.sub_pos_of_lt hlt, hc cap (.head _)⟩
        rcases hb fun c h => hc c (.tail _ h) with h | h
        · exact .inl (by rw [List.length_cons]; omega)
        · exact .inr (by omega)
    · next hge =>
      obtain ⟨k, hk, hb⟩ := ih (rest.drop cap) pos hp
      refine ⟨cap + k, ?_, fun hc => ?_⟩
      · rw [List.flatten_cons, hk, List.drop_eq_nil_of_le (by omega), List.nil_append, List.nil_append, List.take_add]
      · have h0 := hc cap (.head _)
        rcases hb fun c h => hc c (.tail _ h) with h | h
        · exact .inl (by rw [List.length_cons]; omega)
        · exact .inr (by rw [List.length_drop] at h; omega)

end TT.CH
