import TT.Model.Ip
/-!
For C03.  The classifier's bit-mask tests on an octet or hextet are intervals (`mask_test`); `toN` is base-256 positional,
so membership in a block of packed addresses is decided one octet at a time, and the table and the classifier meet at
octet level (`BlockedOct`); the resolver loop is `List.find?` for `suitable`.
-/
namespace TT.Ip

/-- `s &&& m` for a mask `m = (2^j - 1) * 2^k` keeps bits k..k+j-1 -/
theorem and_mask (s k j : Nat) : s &&& ((2^j - 1) * 2^k) = (s / 2^k % 2^j) * 2^k := by
  have hd : (s &&& ((2^j - 1) * 2^k)) / 2^k = s / 2^k % 2^j := by
    rw [Nat.and_div_two_pow, Nat.mul_div_cancel _ (Nat.two_pow_pos k), Nat.and_two_pow_sub_one_eq_mod]
  have hm : (s &&& ((2^j - 1) * 2^k)) % 2^k = 0 := by
    rw [Nat.and_mod_two_pow, Nat.mul_mod_left, Nat.and_zero]
  have := Nat.div_add_mod (s &&& ((2^j - 1) * 2^k)) (2^k)
  rw [hd, hm] at this
  rw [← this]; simp [Nat.mul_comm]

theorem and_ff00 (s : Nat) : s &&& 0xff00 = (s / 256 % 256) * 256 := and_mask s 8 8
theorem and_000f (s : Nat) : s &&& 0x000f = s % 16 := Nat.and_two_pow_sub_one_eq_mod s 4

/-- the test of the `j` bits from bit `k` on against `q`, for `s` of `k + j` bits, as an interval -/
theorem mask_test {s : Nat} (k j q : Nat) (hs : s < 2^j * 2^k) :
    ((s &&& ((2^j - 1) * 2^k)) == q * 2^k) = (decide (q * 2^k ≤ s) && decide (s ≤ q * 2^k + 2^k - 1)) := by
  rw [and_mask, Nat.mod_eq_of_lt ((Nat.div_lt_iff_lt_mul (Nat.two_pow_pos k)).2 hs), Bool.eq_iff_iff]
  simp only [beq_iff_eq, Bool.and_eq_true, decide_eq_true_eq]
  rw [Nat.mul_right_cancel_iff (Nat.two_pow_pos k), Nat.div_eq_iff (Nat.two_pow_pos k)]

section
variable {a b c d : Nat}

theorem oct_free {p x lo hi : Nat} (hx : x < 256) :
    (lo * 256 + 0 ≤ p * 256 + x ∧ p * 256 + x ≤ hi * 256 + 255) ↔ lo ≤ p ∧ p ≤ hi := by omega
theorem oct_fixed {p x P lo hi : Nat} (hx : x < 256) (h : hi < 256) :
    (P * 256 + lo ≤ p * 256 + x ∧ p * 256 + x ≤ P * 256 + hi) ↔ p = P ∧ lo ≤ x ∧ x ≤ hi := by omega
theorem oct_eq {p x P X : Nat} (hx : x < 256) (h : X < 256) :
    p * 256 + x = P * 256 + X ↔ p = P ∧ x = X := by omega
theorem range_self (x A : Nat) : (A ≤ x ∧ x ≤ A) ↔ x = A :=
  ⟨fun h => Nat.le_antisymm h.2 h.1, fun h => h ▸ ⟨Nat.le_refl _, Nat.le_refl _⟩⟩

theorem v4BlockedTable_eq : v4BlockedTable =
    [ (toN 0 0 0 0, toN 0 255 255 255), (toN 10 0 0 0, toN 10 255 255 255), (toN 100 64 0 0, toN 100 127 255 255),
      (toN 127 0 0 0, toN 127 255 255 255), (toN 169 254 0 0, toN 169 254 255 255),
      (toN 172 16 0 0, toN 172 31 255 255), (toN 192 0 0 0, toN 192 0 0 8), (toN 192 0 0 11, toN 192 0 0 255),
      (toN 192 0 2 0, toN 192 0 2 255), (toN 192 168 0 0, toN 192 168 255 255),
      (toN 198 18 0 0, toN 198 19 255 255), (toN 198 51 100 0, toN 198 51 100 255),
      (toN 203 0 113 0, toN 203 0 113 255), (toN 240 0 0 0, toN 255 255 255 255) ] := rfl

/-- the blocks at octet level, in the order of the table -/
def BlockedOct (a b c d : Nat) : Prop :=
  a = 0 ∨ a = 10 ∨ (a = 100 ∧ 64 ≤ b ∧ b ≤ 127) ∨ a = 127 ∨ (a = 169 ∧ b = 254) ∨ (a = 172 ∧ 16 ≤ b ∧ b ≤ 31) ∨
  (((a = 192 ∧ b = 0) ∧ c = 0) ∧ d ≤ 8) ∨ (((a = 192 ∧ b = 0) ∧ c = 0) ∧ 11 ≤ d) ∨ ((a = 192 ∧ b = 0) ∧ c = 2) ∨
  (a = 192 ∧ b = 168) ∨ (a = 198 ∧ 18 ≤ b ∧ b ≤ 19) ∨ ((a = 198 ∧ b = 51) ∧ c = 100) ∨
  ((a = 203 ∧ b = 0) ∧ c = 113) ∨ 240 ≤ a

theorem v4Blocked_iff (ha : a < 256) (hb : b < 256) (hc : c < 256) (hd : d < 256) :
    v4Blocked (toN a b c d) = true ↔ BlockedOct a b c d := by
  simp only [v4Blocked, inTable, v4BlockedTable_eq, List.any_cons, List.any_nil, Bool.or_eq_true, Bool.and_eq_true,
    decide_eq_true_eq, Bool.or_false, BlockedOct]
  -- only now `toN`: unfolded under `decide` it would leave the instance behind
  simp only [toN, oct_free, oct_fixed, oct_eq, hb, hc, hd, range_self, Nat.reduceLT, Nat.zero_le, Nat.le_zero_eq,
    true_and, and_true, Nat.le_of_lt_succ ha, Nat.le_of_lt_succ hd]

theorem isGlobalV4_iff_oct (ha : a < 256) (hb : b < 256) (hc : c < 256) (hd : d < 256) :
    isGlobalV4 a b c d = true ↔ ¬ BlockedOct a b c d := by
  -- the four mask tests of the classifier: 172.16/12, 100.64/10, 198.18/15, 240/4
  have m1 : ((b &&& 0xf0) == 16) = (decide (16 ≤ b) && decide (b ≤ 31)) := mask_test 4 4 1 hb
  have m2 : ((b &&& 0xc0) == 0x40) = (decide (64 ≤ b) && decide (b ≤ 127)) := mask_test 6 2 1 hb
  have m3 : ((b &&& 0xfe) == 18) = (decide (18 ≤ b) && decide (b ≤ 19)) := mask_test 1 7 9 hb
  have m4 : ((a &&& 240) == 240) = (decide (240 ≤ a) && decide (a ≤ 255)) := mask_test 4 4 15 ha
  simp only [isGlobalV4, v4IsPrivate, v4IsLoopback, v4IsLinkLocal, v4IsBroadcast, v4IsDocumentation,
    m1, m2, m3, m4, BlockedOct,
    Bool.if_true_left, Bool.or_eq_true, Bool.and_eq_true, Bool.not_eq_true', ← Bool.not_eq_true,
    decide_eq_true_eq, beq_iff_eq, bne_iff_ne, ne_eq, Nat.le_of_lt_succ ha, and_true,
    show (0xc0000009 : Nat) = toN 192 0 0 9 from rfl, show (0xc000000a : Nat) = toN 192 0 0 10 from rfl]
  simp only [toN, oct_eq, hb, hc, hd, Nat.reduceLT]
  -- The clauses of the classifier are the rows of the table in another order, apart from two places: 192.0.0.0/24,
  -- where it lets .9 and .10 through, and 240.0.0.0/4, which it refuses in two clauses (broadcast and the rest);
  -- outside these two regions the two sides are the same conjunction.
  by_cases hz : (a = 192 ∧ b = 0) ∧ c = 0
  · obtain ⟨⟨rfl, rfl⟩, rfl⟩ := hz
    simp only [Nat.reduceEqDiff, Nat.reduceLeDiff, and_self, true_and, and_true, and_false, false_and, or_false,
      false_or, not_false_eq_true, not_true_eq_false]
    omega
  · by_cases hr : 240 ≤ a
    · by_cases hbc : ((a = 255 ∧ b = 255) ∧ c = 255) ∧ d = 255
      · simp only [eq_true hbc, hz, hr, not_true_eq_false, and_false, false_and, or_false, or_true]
      · simp only [hbc, hz, hr, not_true_eq_false, not_false_eq_true, and_false, false_and, and_true, or_false,
          or_true]
    · have hbc : ¬ (((a = 255 ∧ b = 255) ∧ c = 255) ∧ d = 255) := by omega
      simp only [hz, hr, hbc, not_or, false_and, false_or, or_false, not_false_eq_true, and_true]
      exact iff_of_eq (by ac_rfl)

end

/-- an answer the loop stops at: of an admissible family, and global unless everything is allowed -/
def suitable (allow v6ok : Bool) (a : Sock) : Bool := !(a.ip.isV6 && !v6ok) && (isGlobal a.ip || allow)

theorem selectLoop_of_find {allow v6ok : Bool} {l : List Sock} {a : Sock} (st : Option Sel)
    (h : l.find? (suitable allow v6ok) = some a) : selectLoop allow v6ok st l = some (.suitable a) := by
  fun_induction selectLoop allow v6ok st l with
  | case1 => cases h
  | case2 st x rest hx ih => exact ih (by simpa [List.find?_cons, suitable, hx] using h)
  | case3 st x rest hx hg => simpa [List.find?_cons, suitable, hx, hg] using h
  | case4 st x rest hx hg _ ih => exact ih (by simpa [List.find?_cons, suitable, hx, hg] using h)
  | case5 st x rest hx hg _ ih => exact ih (by simpa [List.find?_cons, suitable, hx, hg] using h)

theorem selectLoop_of_none {allow v6ok : Bool} {l : List Sock} {st : Option Sel} {a : Sock}
    (hst : ∀ b, st ≠ some (.suitable b)) (h : ∀ y ∈ l, ¬ suitable allow v6ok y = true) :
    selectLoop allow v6ok st l ≠ some (.suitable a) := by
  fun_induction selectLoop allow v6ok st l with
  | case1 => exact hst a
  | case2 st x rest hx ih => exact ih hst fun y hy => h y (.tail _ hy)
  | case3 st x rest hx hg => exact absurd (by simp [suitable, hx, hg]) (h x (.head _))
  | case4 st x rest hx hg _ ih => exact ih nofun fun y hy => h y (.tail _ hy)
  | case5 st x rest hx hg _ ih => exact ih nofun fun y hy => h y (.tail _ hy)

end TT.Ip
