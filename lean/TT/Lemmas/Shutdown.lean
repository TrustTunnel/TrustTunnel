import TT.Model.Shutdown
/-! Each participant goes its own way: an operation acts on the participant at index `i` by `pstep`,
whatever the others are, and a registration only appends (`getElem?_step_map`, `getElem?_step`,
`mem_step`).  What C19 says of one participant (`At`) or of all of them (`All`) is then a fact about
`pstep` on a single `Part`. -/
namespace TT.Shutdown

theorem run_fst (s : St) (ops : List Op) : (run s ops).1 = ops.foldl (fun s op => (step s op).1) s := by
  induction ops generalizing s with
  | nil => rfl
  | cons op rest ih => exact ih _

theorem run_nil_fst (s : St) : (run s []).1 = s := rfl

theorem run_append_fst (s : St) (a b : List Op) :
    (run s (a ++ b)).1 = (run (run s a).1 b).1 := by
  simp only [run_fst, List.foldl_append]

theorem run_singleton_fst (s : St) (op : Op) : (run s [op]).1 = (step s op).1 := rfl

theorem run_invariant {P : St → Prop} {s : St} (ops : List Op) (h : P s)
    (hstep : ∀ s, P s → ∀ op ∈ ops, P (step s op).1) : P (run s ops).1 :=
  run_fst s ops ▸ List.foldlRecOn ops _ h hstep

theorem length_setAt (l : List Part) (i : Nat) (f : Part → Part) :
    (setAt l i f).length = l.length := by
  simp [setAt]

theorem getElem?_setAt (l : List Part) (i j : Nat) (f : Part → Part) :
    (setAt l i f)[j]? = l[j]?.map fun p => if j = i then f p else p := by
  simp only [setAt, List.getElem?_mapIdx, beq_iff_eq]

theorem step_completionPoll (s : St) : step s .completionPoll =
    ({ s with completing := true }, if s.parts.all (fun p => !p.guard) then .done else .pending) := by
  simp only [step]
  split <;> rfl

theorem step_completing (s : St) (op : Op) :
    (step s op).1.completing = (op == .completionPoll || s.completing) := by
  fun_cases step s op <;> rfl

@[simp] theorem step_register_completing (s : St) :
    (step s .register).1.completing = s.completing := rfl
@[simp] theorem step_submit_completing (s : St) :
    (step s .submit).1.completing = s.completing := rfl
@[simp] theorem step_finish_completing (s : St) (i : Nat) :
    (step s (.finish i)).1.completing = s.completing := rfl

theorem run_completing (s : St) (ops : List Op) :
    (run s ops).1.completing = (ops.contains .completionPoll || s.completing) := by
  induction ops generalizing s with
  | nil => rfl
  | cons op rest ih =>
    show (run (step s op).1 rest).1.completing = _
    rw [ih, step_completing, List.contains_cons, Bool.or_assoc, Bool.or_left_comm, BEq.comm]

theorem completing_iff {ops : List Op} : (run {} ops).1.completing = true ↔ Op.completionPoll ∈ ops := by
  rw [run_completing, Bool.or_false, List.contains_iff_mem]

/-- what `op` does to the participant at index `i` -/
def pstep (op : Op) (i : Nat) (p : Part) : Part :=
  match op with
  | .waitPoll j => if i = j then (if p.alive && p.unseen then { p with unseen := false } else p) else p
  | .submit => if p.alive then { p with unseen := true } else p
  | .finish j => if i = j then { alive := false, unseen := false, guard := false } else p
  | .register | .completionPoll => p

theorem getElem?_step_map (s : St) {op : Op} (hop : op ≠ .register) (i : Nat) :
    (step s op).1.parts[i]? = s.parts[i]?.map (pstep op i) := by
  cases op with
  | register => exact absurd rfl hop
  | waitPoll j =>
    -- `waitPoll j` touches index `j` only, and only if that participant is alive and has a message waiting
    by_cases hij : i = j
    · subst hij
      cases hi : s.parts[i]? with
      | none => simp only [step, hi, Option.map_none]
      | some q =>
        simp only [step, hi, pstep, if_true, Option.map_some]
        split
        · simp only [getElem?_setAt, hi, Option.map_some, if_true]
        · exact hi
    · have hp : pstep (.waitPoll j) i = fun p => p := funext fun _ => if_neg hij
      rw [hp, Option.map_id']
      simp only [step]
      split
      · split
        · simp only [getElem?_setAt, if_neg hij, Option.map_id']
        · rfl
      · rfl
  | submit => exact List.getElem?_map
  | finish j => exact getElem?_setAt _ _ _ _
  | completionPoll => rw [step_completionPoll]; exact Option.map_id'.symm

theorem getElem?_step {s : St} {i : Nat} {p : Part} (op : Op) (h : s.parts[i]? = some p) :
    (step s op).1.parts[i]? = some (pstep op i p) := by
  by_cases hop : op = .register
  · subst hop
    exact (List.getElem?_append_left (List.getElem?_eq_some_iff.1 h).1).trans h
  · rw [getElem?_step_map s hop, h]; rfl

theorem mem_step {s : St} {op : Op} {q : Part} (h : q ∈ (step s op).1.parts) :
    (∃ j p, p ∈ s.parts ∧ q = pstep op j p) ∨
      (op = .register ∧ q = { alive := true, unseen := false, guard := !s.completing }) := by
  by_cases hop : op = .register
  · subst hop
    rcases List.mem_append.1 h with h | h
    · exact .inl ⟨0, q, h, rfl⟩
    · exact .inr ⟨rfl, List.mem_singleton.1 h⟩
  · obtain ⟨j, hj⟩ := List.mem_iff_getElem?.1 h
    rw [getElem?_step_map s hop] at hj
    obtain ⟨p, hp, rfl⟩ := Option.map_eq_some_iff.1 hj
    exact .inl ⟨j, p, List.mem_iff_getElem?.2 ⟨j, hp⟩, rfl⟩

theorem step_waitPoll_out (s : St) (i : Nat) :
    (step s (.waitPoll i)).2 = .ready ↔
      ∃ p, s.parts[i]? = some p ∧ p.alive = true ∧ p.unseen = true := by
  simp only [step]
  split
  · next p hp =>
    simp only [hp, Option.some.injEq, exists_eq_left', ← Bool.and_eq_true]
    split <;> simp [*]
  · next hp => simp [hp]

theorem step_completionPoll_out (s : St) :
    (step s .completionPoll).2 = .done ↔ ∀ p ∈ s.parts, p.guard = false := by
  rw [step_completionPoll]
  simp

theorem step_completionPoll_pending {s : St} {p : Part} (hp : p ∈ s.parts) (hg : p.guard = true) :
    (step s .completionPoll).2 = .pending := by
  rw [step_completionPoll]
  exact if_neg fun h => by simpa [hg] using List.all_eq_true.1 h p hp

def At (i : Nat) (Q : Part → Prop) (s : St) : Prop := ∃ p, s.parts[i]? = some p ∧ Q p

def All (Q : Part → Prop) (s : St) : Prop := ∀ p ∈ s.parts, Q p

theorem At.step {i : Nat} {Q Q' : Part → Prop} {s : St} (h : At i Q s) (op : Op)
    (hq : ∀ p, Q p → Q' (pstep op i p)) : At i Q' (step s op).1 :=
  let ⟨p, hp, hQ⟩ := h
  ⟨_, getElem?_step op hp, hq p hQ⟩

theorem At.run {i : Nat} {Q : Part → Prop} {s : St} (h : At i Q s) (ops : List Op)
    (hq : ∀ op ∈ ops, ∀ p, Q p → Q (pstep op i p)) : At i Q (run s ops).1 :=
  run_invariant ops h fun _ h op hop => h.step op (hq op hop)

theorem at_register (s : St) {Q : Part → Prop} (h : Q { alive := true, unseen := false, guard := !s.completing }) :
    At s.parts.length Q (step s .register).1 :=
  ⟨_, List.getElem?_concat_length, h⟩

theorem All.step {Q : Part → Prop} {s : St} (h : All Q s) (op : Op) (hq : ∀ j p, Q p → Q (pstep op j p))
    (hnew : op = .register → Q { alive := true, unseen := false, guard := !s.completing }) :
    All Q (step s op).1 := fun _ hm =>
  match mem_step hm with
  | .inl ⟨j, p, hp, e⟩ => e ▸ hq j p (h p hp)
  | .inr ⟨hop, e⟩ => e ▸ hnew hop

/-- a newcomer's guard is some `g`, which is `false` if `completion()` had been called before the run -/
theorem All.run {Q : Part → Prop} {s : St} (h : All Q s) (ops : List Op)
    (hq : ∀ op ∈ ops, ∀ j p, Q p → Q (pstep op j p))
    (hnew : ∀ g, (s.completing = true → g = false) → Q { alive := true, unseen := false, guard := g }) :
    All Q (run s ops).1 := by
  -- the invariant is strengthened by "`completing` stays set": a newcomer's guard is `!s'.completing` when it registers
  refine (run_invariant (P := fun s' => (s.completing = true → s'.completing = true) ∧ All Q s') ops ⟨id, h⟩
    fun s' hs op hop => ⟨fun hc => ?_, ?_⟩).2
  · rw [step_completing, hs.1 hc, Bool.or_true]
  · exact hs.2.step op (hq op hop) fun _ => hnew _ fun hc => by rw [hs.1 hc]; rfl

theorem pstep_alive_guard (op : Op) (i : Nat) (p : Part) :
    (pstep op i p).alive = (op != .finish i && p.alive) ∧ (pstep op i p).guard = (op != .finish i && p.guard) := by
  -- the cases of `pstep`: 1, 2 its own `waitPoll` with a message to take and without, 3 another's; 4, 5 `submit` to a live
  -- and to a finished participant; 6 its own `finish`, 7 another's; 8, 9 `register` and `completionPoll`
  fun_cases pstep op i p
  case case6 => simp only [bne_self_eq_false, Bool.false_and, and_self]
  case case7 h => simp only [bne_iff_ne.2 fun e => h (Op.finish.inj e).symm, Bool.true_and, and_self]
  all_goals exact ⟨rfl, rfl⟩

theorem pstep_of_ne_finish {op : Op} {i : Nat} (h : op ≠ .finish i) (p : Part) :
    (pstep op i p).alive = p.alive ∧ (pstep op i p).guard = p.guard := by
  have := pstep_alive_guard op i p
  rwa [bne_iff_ne.2 h, Bool.true_and, Bool.true_and] at this

theorem pstep_guard_alive {op : Op} {j : Nat} {p : Part} (h : p.guard = true → p.alive = true) :
    (pstep op j p).guard = true → (pstep op j p).alive = true := by
  rw [(pstep_alive_guard op j p).1, (pstep_alive_guard op j p).2, Bool.and_eq_true, Bool.and_eq_true]
  exact fun hg => ⟨hg.1, h hg.2⟩

theorem pstep_guard_false {op : Op} {j : Nat} {p : Part} (h : p.guard = false) : (pstep op j p).guard = false := by
  rw [(pstep_alive_guard op j p).2, h, Bool.and_false]

theorem pstep_unseen {op : Op} {i : Nat} {p : Part} (h1 : op ≠ .waitPoll i) (h2 : op ≠ .finish i)
    (hu : p.unseen = true) : (pstep op i p).unseen = true := by
  fun_cases pstep op i p
  case case1 | case2 => exact absurd rfl h1
  case case6 => exact absurd rfl h2
  case case4 => rfl
  all_goals exact hu

theorem pstep_submit {i : Nat} {p : Part} (h : p.alive = true) :
    (pstep .submit i p).alive = true ∧ (pstep .submit i p).unseen = true := by
  simp only [pstep, h, if_true, and_self]

theorem pstep_unseen_false {op : Op} {i : Nat} {p : Part} (h : op ≠ .submit) (hu : p.unseen = false) :
    (pstep op i p).unseen = false := by
  fun_cases pstep op i p
  case case4 | case5 => exact absurd rfl h
  case case1 | case6 => rfl
  all_goals exact hu

/-- a participant that is there when the shutdown is submitted finds the message at its next poll, whatever
happens in between short of its own poll or end -/
theorem ready_after_submit {s : St} {i : Nat} (h : At i (fun p => p.alive = true) s) (mid : List Op)
    (hmid : ∀ op ∈ mid, op ≠ .waitPoll i ∧ op ≠ .finish i) :
    (step (run (step s .submit).1 mid).1 (.waitPoll i)).2 = .ready :=
  (step_waitPoll_out _ i).2 <| (h.step .submit fun _ hp => pstep_submit hp).run mid fun op hop p hp =>
    ⟨(pstep_of_ne_finish (hmid op hop).2 p).1 ▸ hp.1, pstep_unseen (hmid op hop).1 (hmid op hop).2 hp.2⟩

end TT.Shutdown
