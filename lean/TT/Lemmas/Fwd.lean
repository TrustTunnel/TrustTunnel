import TT.Model.Fwd
import TT.Lemmas.Bytes
/-!
Lemmas for C17 (and the forwarded-sink part of C09).

The throttled sink (`Sink.write` under `offerLoop`/`feed`, with `fakeUnsent`, `failed` and the client's acceptance
script) is compared with a parser that has none of these: `stepU` is one `write` against a client that takes
everything, on a `Core` (phase and client only), and `D` runs it over all of the data. The parser works byte by byte
(`stepU_cons`): what a step keeps and consumes is seen on one byte, and `D` is the left fold of the one-byte step
(`D_cons`). Three facts carry the file: `D_append` (cutting the data does not matter to `D`), `write_post` (a `write`
leaves `D` of what it hands back equal to `D` of what it was given, and makes progress) and from them
`feed_spec`/`runSink_view`: every run shows the client `D` of the concatenated stream. What `D` makes of well-formed streams is then computed once (`D_head`, `D_chunked`, ...).
`convert_response`, `serialize_request` and the credit counter are in `TT.Lemmas.FwdHeaders`.
-/
namespace TT.Fwd
open TT TT.Bytes

/-! ## prefix stability of the two byte-level parsers

For each of them: a decision stands when bytes are appended (`_append`), a completion lies within the input (`_le`,
`_complete`), and one that comes only with the appended bytes lies beyond the old input (`_gt`). -/

theorem headEnd_cons (c : Nat) (r : Bytes) :
    headEnd (c :: r) = if c = 13 ∧ r.take 3 = [10, 13, 10] then some 4 else (headEnd r).map (· + 1) := by
  split
  · rename_i h
    obtain ⟨rfl, h⟩ := h
    match r, h with
    | a :: b :: d :: r', h =>
      simp at h; obtain ⟨rfl, rfl, rfl⟩ := h; simp [headEnd]
  · rename_i h
    rw [headEnd.eq_2]
    intro tail h1 h2; apply h; subst h1 h2; simp

theorem headEnd_le {a : Bytes} {p : Nat} (h : headEnd a = some p) : p ≤ a.length ∧ 4 ≤ p := by
  induction a generalizing p with
  | nil => cases h
  | cons c r ih =>
    rw [headEnd_cons] at h
    split at h
    · rename_i hc
      cases h
      have := congrArg List.length hc.2
      simp at this ⊢; omega
    · obtain ⟨q, hq, rfl⟩ := Option.map_eq_some_iff.mp h
      have := ih hq
      simp; omega

theorem headEnd_append {a : Bytes} (b : Bytes) {p : Nat} (h : headEnd a = some p) : headEnd (a ++ b) = some p := by
  induction a generalizing p with
  | nil => cases h
  | cons c r ih =>
    have hl := headEnd_le h
    rw [headEnd_cons] at h
    rw [List.cons_append, headEnd_cons, List.take_append_of_le_length (by simp only [List.length_cons] at hl; omega)]
    split at h
    · rw [if_pos ‹_›, h]
    · obtain ⟨q, hq, rfl⟩ := Option.map_eq_some_iff.mp h
      rw [if_neg ‹_›, ih hq]; rfl

theorem headEnd_gt {a b : Bytes} {p : Nat} (h : headEnd a = none) (h' : headEnd (a ++ b) = some p) : a.length < p := by
  induction a generalizing p with
  | nil => exact Nat.lt_of_lt_of_le (by decide) (headEnd_le h').2
  | cons c r ih =>
    rw [headEnd_cons] at h
    rw [List.cons_append, headEnd_cons] at h'
    split at h
    · cases h
    · rename_i hc
      split at h'
      · cases h'
        rename_i hc'
        by_cases hl : 3 ≤ r.length
        · rw [List.take_append_of_le_length hl] at hc'; exact absurd hc' hc
        · simp only [List.length_cons]; omega
      · obtain ⟨q, hq, rfl⟩ := Option.map_eq_some_iff.mp h'
        have := ih (Option.map_eq_none_iff.mp h) hq
        simp only [List.length_cons]; omega

theorem chunkLineRest_cons_ext {size pos : Nat} {e : Bool} {c : Nat} {r : Bytes} (hc : ¬ (c == 13) = true)
    (h : e = true ∨ (c == 59) = true) :
    chunkLineRest size pos e (c :: r) = chunkLineRest size (pos + 1) true r := by
  rw [chunkLineRest.eq_def]
  rcases h with h | h <;> simp [hc, h]

/-! The cases of `chunkLineRest`: (1) no input, (2) CR at the end, (3) CRLF, (4) CR and another byte, (5, 6) a byte of
the extension, inside it or the `;` that opens it, (7) any other byte. Those of `chunkDigits`: (1) no input, (2) a
seventeenth digit, (3) a digit, (4) no digit at all, (5) the first byte behind the digits. -/

theorem chunkLineRest_append {size pos : Nat} {e : Bool} {a : Bytes} (b : Bytes)
    (h : chunkLineRest size pos e a ≠ .incomplete) :
    chunkLineRest size pos e (a ++ b) = chunkLineRest size pos e a := by
  fun_induction chunkLineRest size pos e a with
  | case1 | case2 => exact absurd rfl h
  | case3 _ _ _ hc _ _ hd | case4 _ _ _ hc _ _ hd => simp [chunkLineRest, hc, hd]
  | case5 _ _ _ hc ih => rw [List.cons_append, chunkLineRest_cons_ext hc (.inl rfl), ih h]
  | case6 _ _ _ _ hc _ h59 ih => rw [List.cons_append, chunkLineRest_cons_ext hc (.inr h59), ih h]
  | case7 _ _ _ _ hc he h59 => simp [chunkLineRest, hc, he, h59]

theorem chunkLineRest_complete {size pos : Nat} {e : Bool} {a : Bytes} {p sz : Nat}
    (h : chunkLineRest size pos e a = .complete p sz) : pos < p ∧ p ≤ pos + a.length := by
  fun_induction chunkLineRest size pos e a with
  | case1 | case2 | case4 | case7 => cases h
  | case3 => cases h; simp
  | case5 _ _ _ _ ih | case6 _ _ _ _ _ _ _ ih => have := ih h; simp; omega

theorem chunkLineRest_gt {size pos : Nat} {e : Bool} {a b : Bytes} {p sz : Nat}
    (h : chunkLineRest size pos e a = .incomplete)
    (h' : chunkLineRest size pos e (a ++ b) = .complete p sz) : pos + a.length < p := by
  fun_induction chunkLineRest size pos e a with
  | case1 => exact (chunkLineRest_complete h').1
  | case2 _ _ _ hc =>
    cases b with
    | nil => simp [chunkLineRest, hc] at h'
    | cons d b =>
      simp only [List.cons_append, List.nil_append, chunkLineRest, hc, if_true] at h'
      split at h' <;> cases h'
      simp
  | case3 | case4 | case7 => cases h
  | case5 _ _ _ hc ih =>
    rw [List.cons_append, chunkLineRest_cons_ext hc (.inl rfl)] at h'
    have := ih h h'; simp; omega
  | case6 _ _ _ _ hc _ h59 ih =>
    rw [List.cons_append, chunkLineRest_cons_ext hc (.inr h59)] at h'
    have := ih h h'; simp; omega

theorem chunkDigits_cons (n size pos c : Nat) (r : Bytes) :
    chunkDigits n size pos (c :: r) =
      match hexDigitVal c with
      | some d => if n ≥ 16 then .invalid else chunkDigits (n + 1) (size * 16 + d) (pos + 1) r
      | none => if n == 0 then .invalid else chunkLineRest size pos false (c :: r) := by
  rw [chunkDigits.eq_def]
  rfl

theorem chunkDigits_append {n size pos : Nat} {a : Bytes} (b : Bytes) (h : chunkDigits n size pos a ≠ .incomplete) :
    chunkDigits n size pos (a ++ b) = chunkDigits n size pos a := by
  fun_induction chunkDigits n size pos a with
  | case1 => exact absurd rfl h
  | case2 _ _ _ _ _ _ hd hn | case4 _ _ _ _ _ hd hn => simp [chunkDigits_cons, hd, hn]
  | case3 _ _ _ _ _ _ hd hn ih => simp only [List.cons_append, chunkDigits_cons, hd, hn, if_false, ih h]
  | case5 _ _ _ c r hd hn =>
    simp only [List.cons_append, chunkDigits_cons, hd, hn]
    exact chunkLineRest_append b h

theorem chunkDigits_complete {n size pos : Nat} {a : Bytes} {p sz : Nat}
    (h : chunkDigits n size pos a = .complete p sz) : pos < p ∧ p ≤ pos + a.length := by
  fun_induction chunkDigits n size pos a with
  | case1 | case2 | case4 => cases h
  | case3 _ _ _ _ _ _ _ _ ih => have := ih h; simp; omega
  | case5 => exact chunkLineRest_complete h

theorem chunkDigits_gt {n size pos : Nat} {a b : Bytes} {p sz : Nat} (h : chunkDigits n size pos a = .incomplete)
    (h' : chunkDigits n size pos (a ++ b) = .complete p sz) : pos + a.length < p := by
  fun_induction chunkDigits n size pos a with
  | case1 => exact (chunkDigits_complete h').1
  | case2 | case4 => cases h
  | case3 _ _ _ _ _ _ hd hn ih =>
    simp only [List.cons_append, chunkDigits_cons, hd, hn, if_false] at h'
    have := ih h h'; simp; omega
  | case5 _ _ _ c r hd hn =>
    simp only [List.cons_append, chunkDigits_cons, hd, hn] at h'
    exact chunkLineRest_gt h h'

theorem parseChunkSize_append {a : Bytes} (b : Bytes) (h : parseChunkSize a ≠ .incomplete) :
    parseChunkSize (a ++ b) = parseChunkSize a := chunkDigits_append b h

theorem parseChunkSize_complete {a : Bytes} {p sz : Nat} (h : parseChunkSize a = .complete p sz) : p ≤ a.length := by
  have := chunkDigits_complete h; omega

theorem parseChunkSize_gt {a b : Bytes} {p sz : Nat} (h : parseChunkSize a = .incomplete)
    (h' : parseChunkSize (a ++ b) = .complete p sz) : a.length < p := by
  have := chunkDigits_gt h h'; omega

/-! ## the parser without the sink

`stepU_<phase>` restate a phase of `stepU` without `min` or nested matches; `CI` makes every step of `D` consume input
(`stepU_spec`). In the lemmas `ver` and `method` are implicit. -/

/-- what is left of a `Sink` when `ver`, `method`, the quotas, `fakeUnsent` and `failed` are forgotten -/
structure Core where
  phase : Phase
  client : Client

def Sink.core (s : Sink) : Core := ⟨s.phase, s.client⟩

def cEof (cl : Client) : Client := { cl with eofs := cl.eofs ++ [cl.body.length] }

/-- `Sink.write` for a client-side sink that takes everything; a dead sink absorbs silently -/
def stepU (ver : Ver) (method : Bytes) (c : Core) (data : Bytes) : Core × Bytes :=
  match c.phase with
  | .idle => (c, [])
  | .waitingResponse buf =>
    let d := buf ++ data
    match headEnd d with
    | none => (⟨.waitingResponse d, c.client⟩, [])
    | some pos =>
      match parseHeadBytes (d.take pos) with
      | none => (⟨.idle, { c.client with bad := true }⟩, [])
      | some h =>
        match convertResponse ver method h with
        | none => (⟨.idle, { c.client with bad := true }⟩, [])
        | some (kept, bl) =>
          if 100 ≤ h.status ∧ h.status < 200 then
            (⟨.waitingResponse [],
              if ver.isH1 then { c.client with interims := c.client.interims ++ [h.status] } else c.client⟩,
             d.drop pos)
          else
            (⟨match bl with
              | some .chunked => Phase.chunkPrefix []
              | some (.determined n) => .nonEncoded (some n) 0
              | none => .nonEncoded none 0,
              { c.client with head := some (h.status, bl == some (.determined 0), kept) }⟩, d.drop pos)
  | .nonEncoded (some n) sent =>
    if n ≤ sent then (⟨.idle, c.client⟩, [])
    else
      let k := min data.length (n - sent)
      let cl := { c.client with body := c.client.body ++ data.take k }
      (⟨.nonEncoded (some n) (sent + k), if sent + k = n then cEof cl else cl⟩, data.drop k)
  | .nonEncoded none sent =>
    (⟨.nonEncoded none (sent + data.length), { c.client with body := c.client.body ++ data }⟩, [])
  | .chunkPrefix buf =>
    let d := buf ++ data
    match parseChunkSize d with
    | .incomplete => (⟨.chunkPrefix d, c.client⟩, [])
    | .invalid => (⟨.idle, c.client⟩, [])
    | .complete pos size =>
      (⟨if size = 0 then .chunkSuffix [] true else .chunkBody size, c.client⟩, d.drop pos)
  | .chunkBody remaining =>
    let k := min data.length remaining
    (⟨if remaining - k > 0 then .chunkBody (remaining - k) else .chunkSuffix [] false,
      { c.client with body := c.client.body ++ data.take k }⟩, data.drop k)
  | .chunkSuffix buf terminating =>
    let need := 2 - buf.length
    let suffix := buf ++ data.take need
    if suffix != [13, 10].take suffix.length then (⟨.idle, c.client⟩, [])
    else if suffix.length < 2 then (⟨.chunkSuffix suffix terminating, c.client⟩, data.drop need)
    else if terminating then (⟨.idle, cEof c.client⟩, [])
    else (⟨.chunkPrefix [], c.client⟩, data.drop need)

/-- the whole of `d` through the unthrottled parser -/
def D (ver : Ver) (method : Bytes) (c : Core) (d : Bytes) : Core :=
  match d with
  | [] => c
  | x :: r =>
    if (stepU ver method c (x :: r)).2.length < (x :: r).length then
      D ver method (stepU ver method c (x :: r)).1 (stepU ver method c (x :: r)).2
    else (stepU ver method c (x :: r)).1
termination_by d.length

/-- what the buffered phases guarantee about their buffers -/
def CI (c : Core) : Prop :=
  match c.phase with
  | .waitingResponse buf => headEnd buf = none
  | .chunkPrefix buf => parseChunkSize buf = .incomplete
  | .chunkBody r => 0 < r
  | .chunkSuffix buf _ => buf = [] ∨ buf = [13]
  | _ => True

variable {ver : Ver} {method : Bytes}

def phaseOf : Option BodyLen → Phase
  | some .chunked => .chunkPrefix []
  | some (.determined n) => .nonEncoded (some n) 0
  | none => .nonEncoded none 0

/-- the state a complete response head `hb` leaves, whatever follows it; `none` where the sink gives up -/
def afterHead (ver : Ver) (method : Bytes) (cl : Client) (hb : Bytes) : Option Core :=
  match parseHeadBytes hb with
  | none => none
  | some h =>
    match convertResponse ver method h with
    | none => none
    | some (kept, bl) =>
      if 100 ≤ h.status ∧ h.status < 200 then
        some ⟨.waitingResponse [], if ver.isH1 then { cl with interims := cl.interims ++ [h.status] } else cl⟩
      else some ⟨phaseOf bl, { cl with head := some (h.status, bl == some (.determined 0), kept) }⟩

theorem stepU_waiting {cl : Client} {buf d : Bytes} :
    stepU ver method ⟨.waitingResponse buf, cl⟩ d =
      match headEnd (buf ++ d) with
      | none => (⟨.waitingResponse (buf ++ d), cl⟩, [])
      | some pos =>
        match afterHead ver method cl ((buf ++ d).take pos) with
        | none => (⟨.idle, { cl with bad := true }⟩, [])
        | some c' => (c', (buf ++ d).drop pos) := by
  simp only [stepU, afterHead]
  cases headEnd (buf ++ d) with
  | none => rfl
  | some pos =>
    simp only
    cases parseHeadBytes (List.take pos (buf ++ d)) with
    | none => rfl
    | some h =>
      simp only
      cases convertResponse ver method h with
      | none => rfl
      | some kb => simp only; split <;> rfl

theorem stepU_chunkBody {r : Nat} {cl : Client} {d : Bytes} :
    stepU ver method ⟨.chunkBody r, cl⟩ d =
      (⟨if 0 < r - d.length then .chunkBody (r - d.length) else .chunkSuffix [] false,
        { cl with body := cl.body ++ d.take r }⟩, d.drop r) := by
  have h : r - min d.length r = r - d.length := by rw [Nat.min_comm, ← Nat.sub_eq_sub_min]
  simp only [stepU, take_min_length, drop_min_length, h, gt_iff_lt]

theorem stepU_nonEncodedSome {n sent : Nat} {cl : Client} {d : Bytes} (h : sent < n) :
    stepU ver method ⟨.nonEncoded (some n) sent, cl⟩ d =
      (⟨.nonEncoded (some n) (min (sent + d.length) n),
        if n ≤ sent + d.length then cEof { cl with body := cl.body ++ d.take (n - sent) }
        else { cl with body := cl.body ++ d.take (n - sent) }⟩, d.drop (n - sent)) := by
  have h1 : sent + min d.length (n - sent) = min (sent + d.length) n := by
    rw [← Nat.add_min_add_left, Nat.add_sub_cancel' (Nat.le_of_lt h)]
  have h2 : (min (sent + d.length) n = n) = (n ≤ sent + d.length) := by simp; omega
  simp only [stepU, Nat.not_le.mpr h, if_false, take_min_length, drop_min_length, h1, h2]

theorem CI_waiting {cl : Client} : CI ⟨.waitingResponse [], cl⟩ :=
  rfl

theorem CI_phaseOf {bl : Option BodyLen} {cl : Client} : CI ⟨phaseOf bl, cl⟩ :=
  match bl with
  | none | some (.determined _) => trivial
  | some .chunked => rfl

theorem afterHead_CI {cl : Client} {hb : Bytes} {c' : Core}
    (h : afterHead ver method cl hb = some c') : CI c' := by
  revert h
  fun_cases afterHead ver method cl hb <;> intro h <;> cases h
  · exact CI_waiting
  · exact CI_phaseOf

/-- the parser works byte by byte. One unthrottled `write` on the byte `x` keeps the invariant and consumes `x`; one on
`x :: b` ends with `x` and hands `b` back, or it is the `write` on `b` after the one on `x` -/
theorem stepU_cons {c : Core} {x : Nat} (b : Bytes) (h : CI c) :
    CI (stepU ver method c [x]).1 ∧ (stepU ver method c [x]).2 = [] ∧
    (stepU ver method c (x :: b) = ((stepU ver method c [x]).1, b) ∨
      stepU ver method c (x :: b) = stepU ver method (stepU ver method c [x]).1 b) := by
  obtain ⟨phase, cl⟩ := c
  cases phase with
  | idle => exact ⟨trivial, rfl, .inr rfl⟩
  | waitingResponse buf =>
    rw [stepU_waiting, stepU_waiting, List.append_cons buf x b]
    cases hh : headEnd (buf ++ [x]) with
    | none => exact ⟨hh, rfl, .inr (by rw [stepU_waiting])⟩
    | some pos =>
      have h1 : (buf ++ [x]).length ≤ pos := by rw [List.length_append]; exact headEnd_gt h hh
      have h2 := (headEnd_le hh).1
      rw [headEnd_append b hh]
      simp only [List.take_append_of_le_length h2, List.drop_append_of_le_length h2, List.drop_eq_nil_of_le h1]
      cases hc : afterHead ver method cl (List.take pos (buf ++ [x])) with
      | none => exact ⟨trivial, rfl, .inr rfl⟩
      | some c' => exact ⟨afterHead_CI hc, rfl, .inl rfl⟩
  | nonEncoded len sent =>
    cases len with
    | none => exact ⟨trivial, rfl, .inr (by simp [stepU, Nat.add_assoc, Nat.add_comm 1])⟩
    | some n =>
      by_cases hn : n ≤ sent
      · refine ⟨?_, ?_, .inr ?_⟩ <;> simp [stepU, hn, CI]
      have hn' : sent < n := Nat.lt_of_not_le hn
      have h0 : [x].length ≤ n - sent := Nat.sub_pos_of_lt hn'
      rw [stepU_nonEncodedSome hn', stepU_nonEncodedSome hn']
      refine ⟨trivial, List.drop_eq_nil_of_le h0, ?_⟩
      rw [← List.singleton_append]
      simp only [List.take_append, List.drop_append, List.length_append, List.length_singleton,
        List.take_of_length_le h0, List.drop_eq_nil_of_le h0, List.nil_append]
      -- as for a first part of any length, `[x] ++ b`; `hl`: the body goes on behind `x`, otherwise it ends with `x`
      by_cases hl : sent + 1 < n
      · right
        have h3 : min (sent + 1) n = sent + 1 := by omega
        simp only [Nat.not_le.mpr hl, if_false, h3, stepU_nonEncodedSome hl, List.append_assoc, Nat.add_assoc,
          Nat.sub_add_eq]
      · left
        have h1 : n - sent - 1 = 0 := by omega
        have h3 : n ≤ sent + 1 := by omega
        have h4 : n ≤ sent + (1 + b.length) := by omega
        simp only [h1, h3, h4, if_true, Nat.min_eq_right, List.take_zero, List.drop_zero, List.append_nil]
  | chunkPrefix buf =>
    cases hh : parseChunkSize (buf ++ [x]) with
    | incomplete =>
      refine ⟨?_, ?_, .inr ?_⟩ <;> simp only [stepU, hh, List.append_cons buf x b]
      exact hh
    | invalid =>
      have h1 := parseChunkSize_append b (by rw [hh]; nofun)
      refine ⟨?_, ?_, .inr ?_⟩ <;> simp only [stepU, hh, List.append_cons buf x b, h1]
      exact trivial
    | complete pos size =>
      have h1 := parseChunkSize_append b (by rw [hh]; nofun)
      have h2 : (buf ++ [x]).length ≤ pos := by rw [List.length_append]; exact parseChunkSize_gt h hh
      refine ⟨?_, ?_, .inl ?_⟩ <;>
        simp only [stepU, hh, List.append_cons buf x b, h1, List.drop_append_of_le_length (parseChunkSize_complete hh),
          List.drop_eq_nil_of_le h2, List.nil_append]
      by_cases hs : size = 0
      · rw [if_pos hs]; exact .inl rfl
      · rw [if_neg hs]; exact Nat.pos_of_ne_zero hs
  | chunkBody r =>
    cases r with
    | zero => exact absurd h (Nat.lt_irrefl 0)
    | succ r =>
      cases r with
      | zero => refine ⟨?_, ?_, .inl ?_⟩ <;> simp [stepU_chunkBody, CI]
      | succ r => refine ⟨?_, ?_, .inr ?_⟩ <;> simp [stepU_chunkBody, CI]
  | chunkSuffix buf t =>
    rcases (h : buf = [] ∨ buf = [13]) with rfl | rfl
    · by_cases hx : x = 13
      · subst hx; refine ⟨?_, ?_, .inr ?_⟩ <;> simp [stepU, CI]
      · refine ⟨?_, ?_, .inr ?_⟩ <;> simp [stepU, hx, CI]
    · by_cases hx : x = 10
      · subst hx
        cases t
        · refine ⟨rfl, ?_, .inl ?_⟩ <;> simp [stepU]
        · refine ⟨?_, ?_, .inr ?_⟩ <;> simp [stepU, CI]
      · refine ⟨?_, ?_, .inr ?_⟩ <;> simp [stepU, hx, CI]

/-- the invariant and the variant of the parser's loop `D`, byte by byte -/
theorem stepU_spec {c : Core} {d : Bytes} (h : CI c) (hd : d ≠ []) :
    CI (stepU ver method c d).1 ∧ (stepU ver method c d).2.length < d.length := by
  cases d with
  | nil => exact absurd rfl hd
  | cons x b =>
    clear hd
    induction b generalizing c x with
    | nil =>
      obtain ⟨h1, h2, -⟩ := stepU_cons (ver := ver) (method := method) (x := x) [] h
      exact ⟨h1, by rw [h2]; exact Nat.zero_lt_one⟩
    | cons y b ih =>
      obtain ⟨h1, -, e | e⟩ := stepU_cons (ver := ver) (method := method) (x := x) (y :: b) h
      · rw [e]; exact ⟨h1, Nat.lt_succ_self _⟩
      · rw [e]; exact ⟨(ih h1 y).1, Nat.lt_succ_of_lt (ih h1 y).2⟩

theorem D_nil {c : Core} : D ver method c [] = c := by
  rw [D]

theorem D_step {c : Core} {d : Bytes} (h : CI c) (hd : d ≠ []) :
    D ver method c d = D ver method (stepU ver method c d).1 (stepU ver method c d).2 := by
  cases d with
  | nil => exact absurd rfl hd
  | cons x r =>
    rw [D]
    rw [if_pos (stepU_spec h hd).2]

/-- so `D` is the left fold of the one-byte step over the data: feeding `x :: r` is stepping on `x`, then feeding `r` -/
theorem D_cons {c : Core} {x : Nat} {r : Bytes} (h : CI c) :
    D ver method c (x :: r) = D ver method (stepU ver method c [x]).1 r := by
  obtain ⟨h1, h2, e⟩ := stepU_cons (ver := ver) (method := method) (x := x) r h
  rw [D_step h (List.cons_ne_nil x r)]
  by_cases hr : r = []
  · rw [hr, h2, D_nil]
  rcases e with e | e
  · rw [e]
  · rw [e, ← D_step h1 hr]

theorem D_CI (ver : Ver) (method : Bytes) : ∀ (n : Nat) (c : Core) (d : Bytes), d.length ≤ n → CI c →
    CI (D ver method c d) := by
  intro _ c d hn h
  clear hn
  induction d generalizing c with
  | nil => rwa [D_nil]
  | cons x r ih => rw [D_cons h]; exact ih _ (stepU_cons [] h).1

/-- **segmentation does not matter** to the unthrottled parser -/
theorem D_append {c : Core} {a b : Bytes} (h : CI c) :
    D ver method (D ver method c a) b = D ver method c (a ++ b) := by
  induction a generalizing c with
  | nil => rw [D_nil, List.nil_append]
  | cons x a ih => rw [D_cons h, List.cons_append, D_cons h, ih (stepU_cons [] h).1]

/-- a step on a first part of the data, the rest left for later -/
theorem D_stepU_append {c : Core} {a : Bytes} (b : Bytes) (h : CI c) (ha : a ≠ []) :
    D ver method (stepU ver method c a).1 ((stepU ver method c a).2 ++ b) = D ver method c (a ++ b) := by
  rw [← D_append (stepU_spec h ha).1, ← D_step h ha, D_append h]

/-! ## one `write` of the throttled sink

The fields of a `Sink`, in order: `ver`, `method`, `phase`, `fakeUnsent`, `quotas`, `client`, `failed` (`v m p fu q cl f`). -/

/-- what holds of the sink whenever the pipe calls `write` -/
structure Inv (s : Sink) : Prop where
  flag : s.fakeUnsent = false
  ci : CI s.core
  dead : s.failed = true → s.phase = .idle

/-- what `r = s.write d` guarantees, for `s` with `Inv` and `d ≠ []`, under any acceptance script -/
structure WritePost (s : Sink) (d : Bytes) (r : Sink × Bytes) : Prop where
  ver : r.1.ver = s.ver
  method : r.1.method = s.method
  /-- the parser makes of what is handed back what it made of what was given -/
  sem : D s.ver s.method r.1.core r.2 = D s.ver s.method s.core d
  ci : CI r.1.core
  dead : r.1.failed = true → r.1.phase = .idle ∧ r.2 = []
  flag : r.2 = [] → r.1.fakeUnsent = false
  /-- `waitWritable` will say go on -/
  go : r.2 ≠ [] → r.1.fakeUnsent = true ∨ r.1.phase ≠ .idle
  /-- the variant of the pipe's loop -/
  fuel : r.2.length + r.1.quotas.length < d.length + s.quotas.length

section
variable {v : Ver} {m : Bytes} {p p' : Phase} {q q' : List Nat} {cl cl' : Client} {f fu : Bool} {d : Bytes}

/-- for a `write` that is one unthrottled step on all of the data. The step stands in the hypothesis beside the
result `r` of the `write`, so that the case analysis that computes the one computes the other. -/
theorem WritePost.of_step {r : Sink × Bytes} (hi : Inv ⟨v, m, p, false, q, cl, f⟩) (hd : d ≠ [])
    (h : ∃ c' u fu' f', stepU v m ⟨p, cl⟩ d = (c', u) ∧ r = (⟨v, m, c'.phase, fu', q, c'.client, f'⟩, u) ∧
      (f' = true → c'.phase = .idle ∧ u = []) ∧ (u = [] → fu' = false) ∧ (u ≠ [] → fu' = true ∨ c'.phase ≠ .idle)) :
    WritePost ⟨v, m, p, false, q, cl, f⟩ d r := by
  obtain ⟨c', u, fu', f', hs, rfl, dead, flag, go⟩ := h
  have h1 := D_step (ver := v) (method := m) hi.ci hd
  have h2 := stepU_spec (ver := v) (method := m) hi.ci hd
  simp only [Sink.core, hs] at h1 h2
  exact ⟨rfl, rfl, h1.symm, h2.1, dead, flag, go, Nat.add_lt_add_right h2.2 _⟩

/-- for a `write` in a body phase, of which the client-side sink takes the first `k` bytes: one unthrottled step on
those, the rest handed back. `h0` is for the sink that takes nothing, which is no step of `D`: `stepU` on `[]` gives the
state back only up to `++ []`. -/
theorem WritePost.of_take {k : Nat} (hi : Inv ⟨v, m, p, false, q, cl, false⟩) (hk : k ≤ d.length)
    (hs : stepU v m ⟨p, cl⟩ (d.take k) = (⟨p', cl'⟩, [])) (h0 : k = 0 → p' = p ∧ cl' = cl)
    (hq : q'.length ≤ q.length) (hq' : 0 < k ∨ q'.length < q.length)
    (flag : d.length ≤ k → fu = false) (hp : p' ≠ .idle) :
    WritePost ⟨v, m, p, false, q, cl, false⟩ d (⟨v, m, p', fu, q', cl', false⟩, d.drop k) := by
  have hfuel : (d.drop k).length + q'.length < d.length + q.length := by rw [List.length_drop]; omega
  by_cases hk0 : k = 0
  · obtain ⟨rfl, rfl⟩ := h0 hk0
    subst hk0
    exact ⟨rfl, rfl, rfl, hi.ci, by simp, fun (h : d.drop 0 = []) => flag (by simp [show d = [] from h]),
      fun _ => .inr hp, hfuel⟩
  · have hne : d.take k ≠ [] := by
      intro h; have := congrArg List.length h; rw [List.length_take, List.length_nil] at this; omega
    have hD := D_stepU_append (ver := v) (method := m) (d.drop k) hi.ci hne
    have hC := (stepU_spec (ver := v) (method := m) hi.ci hne).1
    simp only [Sink.core, hs, List.nil_append, List.take_append_drop] at hD hC
    exact ⟨rfl, rfl, hD, hC, by simp, by simpa using flag, fun _ => .inr hp, hfuel⟩

end

/-- the client-side sink, offered the first `lim` bytes of `d`, takes the first `k` -/
theorem clientWrite_take (v : Ver) (m : Bytes) (p : Phase) (fu : Bool) (q : List Nat) (cl : Client) (f : Bool)
    {d : Bytes} {lim : Nat} (hd : d ≠ []) (hl : 0 < lim) : ∃ k qs,
    clientWrite ⟨v, m, p, fu, q, cl, f⟩ (d.take (min d.length lim)) =
        (⟨v, m, p, fu, qs, { cl with body := cl.body ++ d.take k }, f⟩, k) ∧
      k ≤ d.length ∧ k ≤ lim ∧ qs.length ≤ q.length ∧ (0 < k ∨ qs.length < q.length) := by
  have hpos : 0 < d.length := List.length_pos_iff.mpr hd
  unfold clientWrite takeQuota
  rw [List.length_take, Nat.min_eq_left (Nat.min_le_left _ _)]
  cases q with
  | nil => exact ⟨min d.length lim, [], by simp [List.take_take], by omega⟩
  | cons q r => exact ⟨min q (min d.length lim), r, by simp [List.take_take, Nat.min_assoc], by simp; omega⟩

theorem write_post (s : Sink) (d : Bytes) (hi : Inv s) (hd : d ≠ []) : WritePost s d (s.write d) := by
  obtain ⟨v, m, p, fu, q, cl, f⟩ := s
  obtain rfl : fu = false := hi.flag
  by_cases hp : p = .idle
  · subst hp; exact .of_step hi hd ⟨_, _, _, _, rfl, rfl, by simp⟩
  obtain rfl : f = false := by
    cases f
    · rfl
    · exact absurd (hi.dead rfl) hp
  cases p with
  | idle => exact absurd rfl hp
  | waitingResponse buf =>
    refine .of_step hi hd ?_
    dsimp only [Sink.write, stepU, fail]
    cases headEnd (buf ++ d) with
    | none => exact ⟨_, _, _, _, rfl, rfl, by simp⟩
    | some pos =>
      dsimp only
      cases parseHeadBytes (List.take pos (buf ++ d)) with
      | none => exact ⟨_, _, _, _, rfl, rfl, by simp⟩
      | some h =>
        dsimp only
        cases convertResponse v m h with
        | none => exact ⟨_, _, _, _, rfl, rfl, by simp⟩
        | some kb =>
          obtain ⟨kept, bl⟩ := kb
          dsimp only
          by_cases h1 : 100 ≤ h.status ∧ h.status < 200
          · rw [if_pos h1, if_pos h1]; exact ⟨_, _, _, _, rfl, rfl, by simp⟩
          · rw [if_neg h1, if_neg h1]; rcases bl with _ | _ | _ <;> exact ⟨_, _, _, _, rfl, rfl, by simp⟩
  | chunkPrefix buf =>
    refine .of_step hi hd ?_
    simp only [Sink.write, stepU, fail, beq_iff_eq]
    cases parseChunkSize (buf ++ d) with
    | incomplete => exact ⟨_, _, _, _, rfl, rfl, by simp⟩
    | invalid => exact ⟨_, _, _, _, rfl, rfl, by simp⟩
    | complete pos size => dsimp only; split <;> exact ⟨_, _, _, _, rfl, rfl, by simp⟩
  | chunkSuffix buf t =>
    refine .of_step hi hd ?_
    dsimp only [Sink.write, stepU, fail, clientEof, cEof]
    generalize buf ++ d.take (2 - buf.length) = w
    by_cases h1 : (w != [13, 10].take w.length) = true
    · rw [if_pos h1, if_pos h1]; exact ⟨_, _, _, _, rfl, rfl, by simp⟩
    · rw [if_neg h1, if_neg h1]
      by_cases h2 : w.length < 2
      · rw [if_pos h2, if_pos h2]; exact ⟨_, _, _, _, rfl, rfl, by simp⟩
      · rw [if_neg h2, if_neg h2]; cases t <;> exact ⟨_, _, _, _, rfl, rfl, by simp⟩
  | nonEncoded len sent =>
    cases len with
    | none =>
      obtain ⟨k, qs, e, hk, -, hq, hq'⟩ := clientWrite_take v m (.nonEncoded none sent) false q cl false hd
        (List.length_pos_iff.mpr hd)
      rw [Nat.min_self, List.take_length] at e
      simp only [Sink.write, List.isEmpty_iff, hd, if_false, e]
      refine .of_take hi hk ?_ (by rintro rfl; simp) hq hq' (fun _ => rfl) (by simp)
      simp [stepU, Nat.min_eq_left hk]
    | some n =>
      by_cases hn : n ≤ sent
      · refine .of_step hi hd ?_
        simp only [Sink.write, stepU, hn, if_true, fail]
        exact ⟨_, _, _, _, rfl, rfl, by simp⟩
      · have hl : 0 < n - sent := Nat.sub_pos_of_lt (Nat.lt_of_not_le hn)
        obtain ⟨k, qs, e, hkd, hkl, hq, hq'⟩ := clientWrite_take v m (.nonEncoded (some n) sent) false q cl false hd hl
        have h0 : (min d.length (n - sent) == 0) = false :=
          beq_eq_false_iff_ne.mpr (Nat.ne_of_gt (Nat.lt_min.mpr ⟨List.length_pos_iff.mpr hd, hl⟩))
        simp only [Sink.write, hn, if_false, h0, Bool.false_eq_true, e]
        by_cases he : sent + k = n
        · simp only [beq_iff_eq, he, if_true, clientEof]
          refine .of_take hi hkd ?_ (by omega) hq hq' (fun _ => rfl) (by simp)
          simp [stepU, hn, Nat.min_eq_left hkd, Nat.min_eq_left hkl, he, cEof, List.take_take]
        · simp only [beq_iff_eq, he, if_false]
          refine .of_take hi hkd ?_ (by rintro rfl; simp) hq hq' (fun _ => rfl) (by simp)
          simp [stepU, hn, Nat.min_eq_left hkd, Nat.min_eq_left hkl, he, List.take_take]
  | chunkBody rem =>
    have hrem : 0 < rem := hi.ci
    obtain ⟨k, qs, e, hkd, hkl, hq, hq'⟩ := clientWrite_take v m (.chunkBody rem) false q cl false hd hrem
    simp only [Sink.write, e]
    refine .of_take hi hkd ?_ (by rintro rfl; simp [hrem]) hq hq' (fun h => by simp [Nat.not_lt.mpr h])
      (by split <;> simp)
    simp [stepU, Nat.min_eq_left hkd, Nat.min_eq_left hkl, List.take_take]

/-! ## the pipe's loop and whole runs: `Runs` composes (`Runs.trans`); `offerLoop`, `offer` and `feed` are such runs (`_spec`) -/

theorem D_idle {c : Core} {d : Bytes} (h : c.phase = .idle) : D ver method c d = c := by
  obtain ⟨p, cl⟩ := c
  obtain rfl : p = .idle := h
  cases d with
  | nil => exact D_nil
  | cons x r => rw [D_step (c := ⟨.idle, cl⟩) trivial (List.cons_ne_nil x r)]; exact D_nil

theorem waitWritable_spec (s : Sink) (h : s.fakeUnsent = true ∨ s.phase ≠ .idle) :
    s.waitWritable = ({ s with fakeUnsent := false }, true) := by
  unfold Sink.waitWritable
  cases hf : s.fakeUnsent
  · have hp : s.phase ≠ .idle := by simpa [hf] using h
    have : ({ s with fakeUnsent := false } : Sink) = s := by cases s; simp_all
    rw [this]
    cases hph : s.phase <;> simp_all
  · simp

/-- `s'` is where the data `d` takes the sink from `s`: the state the unthrottled parser reaches on `d` -/
structure Runs (s : Sink) (d : Bytes) (s' : Sink) : Prop where
  core : s'.core = D s.ver s.method s.core d
  inv : Inv s'
  ver : s'.ver = s.ver
  method : s'.method = s.method

theorem Runs.trans {s s' s'' : Sink} {a b : Bytes} (hi : Inv s) (h1 : Runs s a s') (h2 : Runs s' b s'') :
    Runs s (a ++ b) s'' :=
  ⟨by rw [h2.core, h1.ver, h1.method, h1.core, D_append hi.ci], h2.inv, h2.ver.trans h1.ver,
    h2.method.trans h1.method⟩

/-- **back-pressure does not matter**: the pipe's loop on one segment, whatever the client-side sink
accepts per call, leaves what the unthrottled parser leaves -/
theorem offerLoop_spec (fuel : Nat) (s : Sink) (d : Bytes) (hi : Inv s) (hd : d ≠ [])
    (hfuel : d.length + s.quotas.length < fuel) : Runs s d (offerLoop fuel s d) := by
  induction fuel generalizing s d with
  | zero => omega
  | succ fuel ih =>
    rw [offerLoop]
    by_cases hfail : s.failed = true
    · rw [if_pos hfail]
      exact ⟨by rw [D_idle (hi.dead hfail)], hi, rfl, rfl⟩
    rw [if_neg hfail]
    have wp := write_post s d hi hd
    generalize s.write d = r at wp
    obtain ⟨s', u⟩ := r
    have hsem : D s'.ver s'.method s'.core u = D s.ver s.method s.core d := by rw [wp.ver, wp.method]; exact wp.sem
    dsimp only
    by_cases hu : u = []
    · subst hu
      rw [if_pos (by simp)]
      exact ⟨by rw [← hsem, D_nil], ⟨wp.flag rfl, wp.ci, fun h => (wp.dead h).1⟩, wp.ver, wp.method⟩
    · have hnf : s'.failed = false := by
        cases h : s'.failed
        · rfl
        · exact absurd (wp.dead h).2 hu
      rw [if_neg (by simp [hnf, hu]), waitWritable_spec s' (wp.go hu)]
      have h := ih { s' with fakeUnsent := false } u ⟨rfl, wp.ci, fun h => by simp [hnf] at h⟩ hu
        (by have := wp.fuel; simp only at this ⊢; omega)
      exact ⟨h.core.trans hsem, h.inv, h.ver.trans wp.ver, h.method.trans wp.method⟩

theorem offer_spec (s : Sink) (seg : Bytes) (hi : Inv s) : Runs s seg (offer s seg) := by
  unfold offer
  cases seg with
  | nil => exact ⟨D_nil.symm, hi, rfl, rfl⟩
  | cons x r =>
    simp only [List.isEmpty_cons, Bool.false_eq_true, if_false]
    exact offerLoop_spec _ s (x :: r) hi (by simp) (by omega)

/-- **segmentation does not matter**: feeding the segments one after the other is parsing their concatenation -/
theorem feed_spec (s : Sink) (segs : List Bytes) (hi : Inv s) : Runs s segs.flatten (feed s segs) := by
  induction segs generalizing s with
  | nil => exact ⟨D_nil.symm, hi, rfl, rfl⟩
  | cons seg segs ih =>
    have h := offer_spec s seg hi
    exact h.trans hi (ih _ h.inv)

def Core.init : Core := ⟨.waitingResponse [], {}⟩

theorem Inv_init (ver : Ver) (method : Bytes) (quotas : List Nat) : Inv (Sink.init ver method quotas) :=
  ⟨rfl, CI_waiting, by simp [Sink.init]⟩

def runSink (ver : Ver) (method : Bytes) (quotas : List Nat) (segs : List Bytes) : Sink :=
  feed (Sink.init ver method quotas) segs

theorem runSink_core (ver : Ver) (method : Bytes) (quotas : List Nat) (segs : List Bytes) :
    (runSink ver method quotas segs).core = D ver method Core.init segs.flatten :=
  (feed_spec _ segs (Inv_init ver method quotas)).core

theorem runSink_inv (ver : Ver) (method : Bytes) (quotas : List Nat) (segs : List Bytes) :
    Inv (runSink ver method quotas segs) :=
  (feed_spec _ segs (Inv_init ver method quotas)).inv

/-- what the origin closing shows the client, from the parser state alone -/
def Core.clientAtEof (c : Core) : Client :=
  match c.phase with
  | .idle => c.client
  | .waitingResponse _ => { c.client with bad := true }
  | _ => cEof c.client

theorem eof_client (s : Sink) (hi : Inv s) : s.eof.client = s.core.clientAtEof := by
  unfold Sink.eof
  by_cases hf : s.failed = true
  · have := hi.dead hf
    simp [hf, Core.clientAtEof, Sink.core, this]
  · rw [if_neg hf]
    cases hp : s.phase <;> simp [Core.clientAtEof, Sink.core, hp, clientEof, cEof]

theorem stepU_body {c : Core} {d : Bytes} :
    c.client.body <+: (stepU ver method c d).1.client.body := by
  fun_cases stepU ver method c d
  -- the body phases append what they take of `d`: counted (8), until close (9), a chunk (13)
  case case8 => split <;> exact List.prefix_append _ _
  case case9 | case13 => exact List.prefix_append _ _
  case case5 => split <;> exact List.prefix_refl _ -- an interim response, shown to the client or not
  all_goals exact List.prefix_refl _

theorem D_body {c : Core} (d : Bytes) (h : CI c) :
    c.client.body <+: (D ver method c d).client.body := by
  induction d generalizing c with
  | nil => rw [D_nil]; exact List.prefix_refl _
  | cons x r ih => rw [D_cons h]; exact stepU_body.trans (ih (stepU_cons [] h).1)

theorem feed_body (s : Sink) (hi : Inv s) (more : List Bytes) :
    s.client.body <+: (feed s more).client.body := by
  have h := D_body (ver := s.ver) (method := s.method) more.flatten hi.ci
  rwa [← (feed_spec s more hi).core] at h

/-! ## what an observer of the client side sees of a run

It is a function of the parser state alone (`Sink.clientView_eq`), hence of `D` of the concatenated stream: `runSink_view`, and
`runSink_eof_view` once the origin has closed. -/

/-- what the client observes: interim responses, response head, body bytes, where the first end of
stream fell, whether it got a 502 instead. The model's `View` without `failed`: whether the pipe ends in error depends
on where the stream is cut (bytes behind a complete response fail it only when they come as a segment of their own). -/
structure ClientView where
  interims : List Nat
  head : Option (Nat × Bool × List (Bytes × Bytes))
  body : Bytes
  firstEof : Option Nat
  bad : Bool
  deriving DecidableEq, Repr

def Sink.clientView (s : Sink) : ClientView :=
  { interims := s.client.interims, head := s.client.head, body := s.client.body,
    firstEof := s.client.eofs.head?, bad := s.client.bad }

/-- what the client observes of a parser state -/
def Client.view (cl : Client) : ClientView :=
  { interims := cl.interims, head := cl.head, body := cl.body, firstEof := cl.eofs.head?, bad := cl.bad }

theorem Sink.clientView_eq (s : Sink) : s.clientView = s.client.view :=
  rfl

/-- **every run shows the client what the unthrottled parser makes of the concatenated stream** -/
theorem runSink_view (ver : Ver) (method : Bytes) (quotas : List Nat) (segs : List Bytes) :
    (runSink ver method quotas segs).clientView = (D ver method Core.init segs.flatten).client.view :=
  congrArg (·.client.view) (runSink_core ver method quotas segs)

theorem runSink_eof_view (ver : Ver) (method : Bytes) (quotas : List Nat) (segs : List Bytes) :
    (runSink ver method quotas segs).eof.clientView = (D ver method Core.init segs.flatten).clientAtEof.view := by
  rw [Sink.clientView_eq, eof_client _ (runSink_inv ver method quotas segs), runSink_core]

/-! ## well-formed streams: what `D` makes of a head (`D_head`, `D_finalHead`) and of each kind of body behind it -/

theorem hexDigitVal_enc : ∀ d, d < 16 → hexDigitVal (if d < 10 then 48 + d else 87 + d) = some d := by
  decide

/-- the parser reads the digits of `n` back as `n`, behind the `k` digits it has read before; `m + 1` bounds their
number -/
theorem hexDigits_parse {fuel m n : Nat} (hn : n < 16 ^ (m + 1)) (hm : m < fuel) :
    1 ≤ (hexDigits fuel n).length ∧ (hexDigits fuel n).length ≤ m + 1 ∧
      ∀ (k sz pos : Nat) (tail : Bytes), k + (hexDigits fuel n).length ≤ 16 →
        chunkDigits k sz pos (hexDigits fuel n ++ tail) =
          chunkDigits (k + (hexDigits fuel n).length) (sz * 16 ^ (hexDigits fuel n).length + n)
            (pos + (hexDigits fuel n).length) tail := by
  induction fuel generalizing m n with
  | zero => omega
  | succ fuel ih =>
    have hv := hexDigitVal_enc (n % 16) (Nat.mod_lt _ (by omega))
    by_cases hq : n / 16 = 0
    · simp only [hexDigits, hq, beq_self_eq_true, if_true, List.length_singleton, List.singleton_append]
      refine ⟨Nat.le_refl _, by omega, fun k sz pos tail hk => ?_⟩
      simp only [chunkDigits_cons, hv, Nat.not_le.mpr (Nat.lt_of_succ_le hk), if_false, Nat.pow_one]
      congr 1; omega
    · cases m with
      | zero => omega
      | succ m =>
        rw [Nat.pow_succ] at hn
        obtain ⟨hl1, hl2, hl4⟩ := ih (n := n / 16) ((Nat.div_lt_iff_lt_mul (by omega)).mpr hn) (Nat.lt_of_succ_lt_succ hm)
        have hq' : (n / 16 == 0) = false := by simpa using hq
        simp only [hexDigits, hq', Bool.false_eq_true, if_false, List.length_append, List.length_singleton,
          List.append_assoc, List.singleton_append]
        generalize (hexDigits fuel (n / 16)).length = len at hl1 hl2 hl4
        refine ⟨by omega, by omega, fun k sz pos tail hk => ?_⟩
        rw [hl4 k sz pos _ (by omega), chunkDigits_cons]
        simp only [hv, Nat.not_le.mpr (show k + len < 16 by omega), if_false]
        have e : (sz * 16 ^ len + n / 16) * 16 + n % 16 = sz * 16 ^ (len + 1) + n := by
          rw [Nat.pow_succ, ← Nat.mul_assoc, Nat.add_mul, Nat.add_assoc, Nat.div_add_mod']
        rw [e, Nat.add_assoc, Nat.add_assoc]

theorem chunkLineRest_ext (size pos : Nat) {ext : Bytes} (rest : Bytes) (h : 13 ∉ ext) :
    chunkLineRest size pos true (ext ++ 13 :: 10 :: rest) = .complete (pos + ext.length + 2) size := by
  induction ext generalizing pos with
  | nil => simp [chunkLineRest]
  | cons c r ih =>
    simp only [List.mem_cons, not_or] at h
    rw [List.cons_append, chunkLineRest_cons_ext (by simpa using Ne.symm h.1) (.inl rfl), ih _ h.2]
    simp; omega

/-- the size line of `encodeChunk` -/
def chunkLine (n : Nat) (ext : Bytes) : Bytes :=
  toHexBytes n ++ (if ext.isEmpty then [] else 59 :: ext) ++ [13, 10]

theorem parseChunkSize_chunkLine {n : Nat} {ext : Bytes} (rest : Bytes) (hn : n < 16 ^ 16) (he : 13 ∉ ext) :
    parseChunkSize (chunkLine n ext ++ rest) = .complete (chunkLine n ext).length n := by
  obtain ⟨hl1, hl2, hl4⟩ := hexDigits_parse (fuel := 17) (m := 15) hn (by omega)
  unfold parseChunkSize chunkLine toHexBytes
  simp only [List.append_assoc]
  rw [hl4 0 0 0 _ (by omega)]
  simp only [Nat.zero_mul, Nat.zero_add, List.length_append]
  generalize (hexDigits 17 n).length = len at hl1 hl2 ⊢
  have hk : (len == 0) = false := by simpa using (by omega : len ≠ 0)
  cases ext with
  | nil => simp [chunkDigits_cons, hexDigitVal, hk, chunkLineRest]
  | cons e es =>
    have := chunkLineRest_ext n (len + 1) rest he
    simp only [List.cons_append] at this
    simp [chunkDigits_cons, hexDigitVal, hk, chunkLineRest_cons_ext, this]
    omega

theorem D_head {cl : Client} {hb rest : Bytes} {c' : Core}
    (he : headEnd hb = some hb.length) (ha : afterHead ver method cl hb = some c') :
    D ver method ⟨.waitingResponse [], cl⟩ (hb ++ rest) = D ver method c' rest := by
  have hl := (headEnd_le he).2
  have hne : hb ++ rest ≠ [] := by
    intro h0; have := congrArg List.length h0; rw [List.length_append, List.length_nil] at this; omega
  rw [D_step CI_waiting hne, stepU_waiting, List.nil_append, headEnd_append rest he]
  simp only [List.take_left', List.drop_left', ha]

theorem afterHead_final {cl : Client} {hb : Bytes} {h : Head}
    {kept : List (Bytes × Bytes)} {bl : Option BodyLen} (hp : parseHeadBytes hb = some h)
    (hc : convertResponse ver method h = some (kept, bl)) (hf : ¬ (100 ≤ h.status ∧ h.status < 200)) :
    afterHead ver method cl hb =
      some ⟨phaseOf bl, { cl with head := some (h.status, bl == some (.determined 0), kept) }⟩ := by
  simp only [afterHead, hp, hc, hf, if_false]

/-- a well-formed final response head: exactly one head, not 1xx, which `convert_response` accepts -/
structure FinalHead (ver : Ver) (method : Bytes) (hb : Bytes) (status : Nat) (kept : List (Bytes × Bytes))
    (bl : Option BodyLen) : Prop where
  ends : headEnd hb = some hb.length
  parsed : ∃ h, parseHeadBytes hb = some h ∧ h.status = status ∧ convertResponse ver method h = some (kept, bl)
  final : ¬ (100 ≤ status ∧ status < 200)

theorem D_finalHead {hb : Bytes} {status : Nat} {kept : List (Bytes × Bytes)} {bl : Option BodyLen}
    (hh : FinalHead ver method hb status kept bl) (rest : Bytes) :
    D ver method Core.init (hb ++ rest) =
      D ver method ⟨phaseOf bl, { head := some (status, bl == some (.determined 0), kept) }⟩ rest := by
  obtain ⟨h, hp, rfl, hc⟩ := hh.parsed
  exact D_head hh.ends (afterHead_final hp hc hh.final)

theorem afterHead_interim {cl : Client} {ib : Bytes} {h : Head}
    (hp : parseHeadBytes ib = some h) (hc : (convertResponse ver method h).isSome)
    (hf : 100 ≤ h.status ∧ h.status < 200) :
    afterHead ver method cl ib =
      some ⟨.waitingResponse [], if ver.isH1 then { cl with interims := cl.interims ++ [h.status] } else cl⟩ := by
  obtain ⟨⟨kept, bl⟩, hc'⟩ := Option.isSome_iff_exists.mp hc
  simp only [afterHead, hp, hc', hf, and_self, if_true]

theorem D_nonEncodedNone {cl : Client} {sent : Nat} {body : Bytes} :
    D ver method ⟨.nonEncoded none sent, cl⟩ body =
      ⟨.nonEncoded none (sent + body.length), { cl with body := cl.body ++ body }⟩ := by
  by_cases hb : body = []
  · subst hb; simp [D_nil]
  · rw [D_step (c := ⟨.nonEncoded _ _, _⟩) trivial hb]
    simp [stepU, D_nil]

theorem D_nonEncodedSome {cl : Client} {n sent : Nat} {body : Bytes}
    (hs : sent < n) (hl : sent + body.length ≤ n) :
    D ver method ⟨.nonEncoded (some n) sent, cl⟩ body =
      ⟨.nonEncoded (some n) (sent + body.length),
        if sent + body.length = n then cEof { cl with body := cl.body ++ body }
        else { cl with body := cl.body ++ body }⟩ := by
  by_cases hb : body = []
  · subst hb
    simp [D_nil, Nat.ne_of_lt hs]
  · have h0 : body.length ≤ n - sent := by omega
    have h1 : sent + body.length = n ↔ n ≤ sent + body.length := by omega
    rw [D_step (c := ⟨.nonEncoded _ _, _⟩) trivial hb, stepU_nonEncodedSome hs]
    simp only [List.drop_eq_nil_of_le h0, D_nil, List.take_of_length_le h0, Nat.min_eq_left hl, h1]

theorem D_chunk {cl : Client} {ext payload rest : Bytes}
    (hp : payload ≠ []) (hl : payload.length < 16 ^ 16) (he : 13 ∉ ext) :
    D ver method ⟨.chunkPrefix [], cl⟩ (encodeChunk ext payload ++ rest) =
      D ver method ⟨.chunkPrefix [], { cl with body := cl.body ++ payload }⟩ rest := by
  have hpl : 0 < payload.length := List.length_pos_iff.mpr hp
  have henc : encodeChunk ext payload ++ rest = chunkLine payload.length ext ++ (payload ++ 13 :: 10 :: rest) := by
    simp [encodeChunk, chunkLine]
  have hps := parseChunkSize_chunkLine (payload ++ 13 :: 10 :: rest) hl he
  have hne : chunkLine payload.length ext ++ (payload ++ 13 :: 10 :: rest) ≠ [] := by
    simp [hp]
  rw [henc, D_step (c := ⟨.chunkPrefix [], cl⟩) rfl hne]
  have hs0 : ¬ payload.length = 0 := by omega
  simp only [stepU, List.nil_append, hps, List.drop_left', hs0, if_false]
  rw [D_step (c := ⟨.chunkBody _, _⟩) hpl (by simp [hp])]
  have h1 : min (payload ++ 13 :: 10 :: rest).length payload.length = payload.length := by
    simp
  simp only [stepU, h1, Nat.sub_self, Nat.lt_irrefl, gt_iff_lt, if_false, List.take_left', List.drop_left']
  rw [D_step (c := ⟨.chunkSuffix [] false, _⟩) (.inl rfl) (by simp)]
  simp [stepU]

theorem D_lastChunk {cl : Client} :
    D ver method ⟨.chunkPrefix [], cl⟩ (str "0\r\n\r\n") = ⟨.idle, cEof cl⟩ := by
  have : str "0\r\n\r\n" = [48, 13, 10, 13, 10] := by decide
  rw [this, D_step (c := ⟨.chunkPrefix [], cl⟩) rfl (by simp)]
  have hp : parseChunkSize [48, 13, 10, 13, 10] = .complete 3 0 := by decide
  simp only [stepU, List.nil_append, hp, if_true]
  rw [D_step (c := ⟨.chunkSuffix [] true, _⟩) (.inl rfl) (by simp)]
  simp [stepU, D_nil]

theorem D_chunked {chunks : List (Bytes × Bytes)} {cl : Client}
    (h : ∀ c ∈ chunks, c.2 ≠ [] ∧ c.2.length < 16 ^ 16 ∧ 13 ∉ c.1) :
    D ver method ⟨.chunkPrefix [], cl⟩ (encodeChunked chunks) =
      ⟨.idle, cEof { cl with body := cl.body ++ (chunks.map (·.2)).flatten }⟩ := by
  induction chunks generalizing cl with
  | nil => simp [encodeChunked, D_lastChunk]
  | cons c cs ih =>
    have hc := h c (by simp)
    have : encodeChunked (c :: cs) = encodeChunk c.1 c.2 ++ encodeChunked cs := by
      simp [encodeChunked]
    rw [this, D_chunk hc.1 hc.2.1 hc.2.2, ih (fun x hx => h x (by simp [hx]))]
    simp

/-! ## interim responses already sent do not influence what follows -/

def addI (x : List Nat) (c : Core) : Core := ⟨c.phase, { c.client with interims := x ++ c.client.interims }⟩

theorem afterHead_addI {x : List Nat} {cl : Client} {hb : Bytes} :
    afterHead ver method { cl with interims := x ++ cl.interims } hb = (afterHead ver method cl hb).map (addI x) := by
  fun_cases afterHead ver method cl hb <;> simp [afterHead, addI, *]
  split <;> simp

theorem stepU_addI {x : List Nat} {c : Core} {d : Bytes} :
    stepU ver method (addI x c) d = (addI x (stepU ver method c d).1, (stepU ver method c d).2) := by
  obtain ⟨phase, cl⟩ := c
  cases phase with
  | idle => rfl
  | waitingResponse buf =>
    simp only [addI, stepU_waiting, afterHead_addI]
    cases headEnd (buf ++ d) with
    | none => rfl
    | some pos => simp only; cases afterHead ver method cl (List.take pos (buf ++ d)) <;> rfl
  | nonEncoded len sent =>
    cases len with
    | none => rfl
    | some n =>
      dsimp only [stepU, addI]
      split
      · rfl
      · split <;> rfl
  | chunkPrefix buf =>
    dsimp only [stepU, addI]
    cases parseChunkSize (buf ++ d) <;> rfl
  | chunkBody r => rfl
  | chunkSuffix buf t =>
    dsimp only [stepU, addI]
    generalize buf ++ d.take (2 - buf.length) = w
    by_cases h1 : (w != [13, 10].take w.length) = true
    · rw [if_pos h1, if_pos h1]
    rw [if_neg h1, if_neg h1]
    by_cases h2 : w.length < 2
    · rw [if_pos h2, if_pos h2]
    · rw [if_neg h2, if_neg h2]; cases t <;> rfl

theorem D_addI {x : List Nat} {c : Core} {d : Bytes} (h : CI c) :
    D ver method (addI x c) d = addI x (D ver method c d) := by
  induction d generalizing c with
  | nil => rw [D_nil, D_nil]
  | cons y r ih =>
    rw [D_cons h, D_cons (show CI (addI x c) from h), stepU_addI]
    exact ih (stepU_cons [] h).1

end TT.Fwd
