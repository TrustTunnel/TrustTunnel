import TT.Model.QuicTimers
import TT.Lemmas.Keyed
/-! For C14.  `minDeadline` is the least of the deadlines (`List.min?`), and `put` is insert-or-replace by connection id
(`TT.Keyed`). -/
namespace TT.QuicTimers

theorem minDeadline_eq (d : List (Conn × Nat)) : minDeadline d = (d.map (·.2)).min? := by
  induction d with
  | nil => rfl
  | cons e rest ih =>
    rw [minDeadline, ih, List.map_cons, List.min?_cons]
    cases (rest.map (·.2)).min? <;> rfl

theorem minDeadline_eq_none {d : List (Conn × Nat)} : minDeadline d = none ↔ d = [] := by
  rw [minDeadline_eq, List.min?_eq_none_iff, List.map_eq_nil_iff]

theorem minDeadline_eq_some {d : List (Conn × Nat)} {m : Nat} (h : minDeadline d = some m) :
    (∃ e ∈ d, e.2 = m) ∧ ∀ e ∈ d, m ≤ e.2 := by
  rw [minDeadline_eq, List.min?_eq_some_iff] at h
  exact ⟨List.mem_map.1 h.1, fun e he => h.2 _ (List.mem_map_of_mem he)⟩

theorem mem_put {d : List (Conn × Nat)} {c : Conn} {t : Nat} {e : Conn × Nat} :
    e ∈ put d c t ↔ (e ∈ d ∧ e.1 ≠ c) ∨ e = (c, t) :=
  TT.Keyed.mem_put Prod.fst

theorem mem_foldl_put {rearm d : List (Conn × Nat)} {e : Conn × Nat}
    (h : e ∈ rearm.foldl (fun d x => put d x.1 x.2) d) : e ∈ d ∨ e ∈ rearm := by
  refine List.foldlRecOn rearm _ (motive := fun d' => e ∈ d' → e ∈ d ∨ e ∈ rearm) .inl (fun d' ih r hr h => ?_) h
  rcases mem_put.1 h with h | rfl
  · exact ih h.1
  · exact .inr hr

/-- `closest` is never later than any armed deadline (so it is `some` whenever one is armed) -/
def Inv (s : St) : Prop := ∀ e ∈ s.deadlines, ∃ c, s.closest = some c ∧ c ≤ e.2

theorem inv_init : Inv {} := by
  intro e he; cases he

theorem inv_step (s : St) (op : Op) (h : Inv s) : Inv (step s op) := by
  cases op with
  | arm c t =>
    -- the new `closest` is `t` or the old one, whichever is earlier
    have hcl : ∃ m, (step s (.arm c t)).closest = some m ∧ m ≤ t ∧ ∀ x, s.closest = some x → m ≤ x := by
      simp only [step]
      cases s.closest with
      | none => exact ⟨t, rfl, Nat.le_refl _, nofun⟩
      | some x =>
        by_cases ht : t < x
        · exact ⟨t, if_pos ht, Nat.le_refl _, fun _ hx => Option.some.inj hx ▸ Nat.le_of_lt ht⟩
        · exact ⟨x, if_neg ht, Nat.le_of_not_lt ht, fun _ hx => Option.some.inj hx ▸ Nat.le_refl _⟩
    obtain ⟨m, hm, hmt, hmx⟩ := hcl
    intro e he
    refine ⟨m, hm, ?_⟩
    rcases mem_put.1 he with ⟨he, -⟩ | rfl
    · obtain ⟨c0, hc0, hle⟩ := h e he
      exact Nat.le_trans (hmx c0 hc0) hle
    · exact hmt
  | remove c => exact fun e he => h e (List.mem_filter.1 he).1
  | tick now rearm =>
    intro e he
    cases hm : minDeadline (step s (.tick now rearm)).deadlines with
    | none => rw [minDeadline_eq_none.1 hm] at he; cases he
    | some m => exact ⟨m, hm, (minDeadline_eq_some hm).2 e he⟩

theorem inv_run {s : St} (ops : List Op) (h : Inv s) : Inv (run s ops) :=
  List.foldlRecOn ops step h fun s h op _ => inv_step s op h

/-- the list stands for a `HashMap`: one entry per connection id -/
def Keyed (d : List (Conn × Nat)) : Prop := (d.map Prod.fst).Nodup

theorem keyed_step {s : St} (op : Op) (h : Keyed s.deadlines) : Keyed (step s op).deadlines := by
  cases op with
  | arm c t => exact TT.Keyed.nodup_put Prod.fst rfl h
  | remove c => exact TT.Keyed.nodup_filter Prod.fst _ h
  | tick now rearm =>
    exact List.foldlRecOn rearm _ (TT.Keyed.nodup_filter Prod.fst _ h) fun _ h r _ => TT.Keyed.nodup_put Prod.fst rfl h

theorem keyed_run {s : St} (ops : List Op) (h : Keyed s.deadlines) : Keyed (run s ops).deadlines :=
  List.foldlRecOn ops step (motive := fun s : St => Keyed s.deadlines) h fun _ h op _ => keyed_step op h

end TT.QuicTimers
