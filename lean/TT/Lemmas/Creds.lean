import TT.Model.Creds
/-!
For C13. base64 has a left inverse on bytes (`unbase64_base64`), so a token identifies its credentials; the
basic-string decoder inverts the escaper, one escaped character at a time (`decodeBasic_escapeChar`); `validate`
reports the first of its four checks that fails (`validate_isSome`).
-/
namespace TT.Creds
open TT

/-- decoder of a single base64 digit (total; only its values on digits matter) -/
def b64Val (c : Char) : Nat :=
  let n := c.toNat
  if 65 ≤ n ∧ n < 91 then n - 65
  else if 97 ≤ n ∧ n < 123 then n - 71
  else if 48 ≤ n ∧ n < 58 then n + 4
  else if n = 43 then 62 else 63

theorem b64Val_b64Char : ∀ i, i < 64 → b64Val (b64Char i) = i := by decide +kernel

theorem b64Char_ne_pad : ∀ i, i < 64 → b64Char i ≠ '=' := by decide +kernel

/-- decoder of padded base64 (total; only its values on encodings matter) -/
def unbase64 : List Char → Bytes
  | c0 :: c1 :: c2 :: c3 :: rest =>
    if c2 = '=' then [b64Val c0 * 4 + b64Val c1 / 16]
    else if c3 = '=' then [b64Val c0 * 4 + b64Val c1 / 16, b64Val c1 % 16 * 16 + b64Val c2 / 4]
    else (b64Val c0 * 4 + b64Val c1 / 16) :: (b64Val c1 % 16 * 16 + b64Val c2 / 4) ::
      (b64Val c2 % 4 * 64 + b64Val c3) :: unbase64 rest
  | _ => []

/-- the four digits of three bytes, and the bytes back from them -/
theorem b64_digits {x y z : Nat} (hx : x < 256) (hy : y < 256) (hz : z < 256) :
    (x / 4 < 64 ∧ x % 4 * 16 + y / 16 < 64 ∧ y % 16 * 4 + z / 64 < 64 ∧ z % 64 < 64) ∧
    x / 4 * 4 + (x % 4 * 16 + y / 16) / 16 = x ∧
    (x % 4 * 16 + y / 16) % 16 * 16 + (y % 16 * 4 + z / 64) / 4 = y ∧
    (y % 16 * 4 + z / 64) % 4 * 64 + z % 64 = z := by
  omega

theorem unbase64_base64 (a : Bytes) (ha : ∀ x ∈ a, x < 256) : unbase64 (base64 a) = a := by
  induction a using base64.induct with
  | case1 => rfl
  | case2 x =>
    -- padding: the missing bytes count as 0
    obtain ⟨⟨h0, h1, -, -⟩, e0, -, -⟩ := b64_digits (y := 0) (z := 0) (ha x (by simp)) (by decide) (by decide)
    simp only [Nat.zero_div, Nat.add_zero] at h1 e0
    simp only [base64, unbase64, if_true, b64Val_b64Char _ h0, b64Val_b64Char _ h1, e0]
  | case3 x y =>
    obtain ⟨⟨h0, h1, h2, -⟩, e0, e1, -⟩ := b64_digits (z := 0) (ha x (by simp)) (ha y (by simp)) (by decide)
    simp only [Nat.zero_div, Nat.add_zero] at h2 e1
    simp only [base64, unbase64, b64Char_ne_pad _ h2, if_false, if_true, b64Val_b64Char _ h0, b64Val_b64Char _ h1,
      b64Val_b64Char _ h2, e0, e1]
  | case4 x y z rest ih =>
    obtain ⟨⟨h0, h1, h2, h3⟩, e0, e1, e2⟩ := b64_digits (ha x (by simp)) (ha y (by simp)) (ha z (by simp))
    simp only [base64, unbase64, b64Char_ne_pad _ h2, b64Char_ne_pad _ h3, if_false, b64Val_b64Char _ h0,
      b64Val_b64Char _ h1, b64Val_b64Char _ h2, b64Val_b64Char _ h3, e0, e1, e2, ih fun w hw => ha w (by simp [hw])]

theorem utf8_lt (s : List Char) : ∀ x ∈ utf8 s, x < 256 := by
  intro x hx
  simp [utf8] at hx
  obtain ⟨c, _, b, _, rfl⟩ := hx
  exact UInt8.toNat_lt b

theorem hexVal_hexDigit : ∀ d, d < 16 → hexVal (hexDigit d) = some d := by decide +kernel

theorem hexDigits_hex4 (n : Nat) (hn : n < 65536) (rest : List Char) :
    hexDigits 4 (hex4 n ++ rest) = some (n, rest) := by
  simp only [hex4, List.cons_append, List.nil_append, hexDigits]
  rw [hexVal_hexDigit _ (Nat.mod_lt _ (by decide)), hexVal_hexDigit _ (Nat.mod_lt _ (by decide)),
    hexVal_hexDigit _ (Nat.mod_lt _ (by decide)), hexVal_hexDigit _ (Nat.mod_lt _ (by decide))]
  simp only [Option.some.injEq, Prod.mk.injEq, and_true]
  -- digit by digit: with nested `/ 16` omega has small coefficients to work with
  rw [show n / 4096 = n / 16 / 16 / 16 by rw [Nat.div_div_eq_div_mul, Nat.div_div_eq_div_mul],
    show n / 256 = n / 16 / 16 by rw [Nat.div_div_eq_div_mul]]
  omega

theorem isCtl_lt {c : Char} (h : isCtl c = true) : c.toNat < 128 := by
  simp [isCtl] at h
  omega

theorem escapeChar_head (c : Char) : ∃ d r, escapeChar c = d :: r ∧ d ≠ '"' := by
  fun_cases escapeChar c
  case case4 h _ _ => exact ⟨_, _, rfl, by simpa using h⟩
  all_goals exact ⟨_, _, rfl, by decide⟩

theorem length_le_flatMap_escape (s : List Char) : s.length ≤ (s.flatMap escapeChar).length := by
  induction s with
  | nil => simp
  | cons c s ih =>
    obtain ⟨d, r, h, _⟩ := escapeChar_head c
    simp only [List.flatMap_cons, List.length_append, List.length_cons, h]
    omega

/-- one escaped character is decoded to itself, for one unit of fuel -/
theorem decodeBasic_escapeChar (c : Char) (fuel : Nat) (rest : List Char) :
    decodeBasic (fuel + 1) (escapeChar c ++ rest) = (decodeBasic fuel rest).map fun (s, r) => (c :: s, r) := by
  by_cases h1 : c = '"'
  · subst h1; rfl
  by_cases h2 : c = '\\'
  · subst h2; rfl
  by_cases h3 : isCtl c = true
  · have hlt := isCtl_lt h3
    have hs : isScalar c.toNat = true := by simp [isScalar]; omega
    simp [escapeChar, h1, h2, h3, decodeBasic, hexDigits_hex4 c.toNat (Nat.lt_trans hlt (by decide)), hs]
  · simp [escapeChar, decodeBasic, h1, h2, h3]

theorem decodeBasic_escape (s : List Char) (tail : List Char) (fuel : Nat) (h : s.length < fuel) :
    decodeBasic fuel (s.flatMap escapeChar ++ '"' :: tail) = some (s, tail) := by
  induction s generalizing fuel with
  | nil =>
    cases fuel with
    | zero => cases h
    | succ f => simp [decodeBasic]
  | cons c s ih =>
    cases fuel with
    | zero => cases h
    | succ f =>
      rw [List.flatMap_cons, List.append_assoc, decodeBasic_escapeChar, ih f (Nat.lt_of_succ_lt_succ h), Option.map_some]

theorem flatMap_escape_plain (s : List Char) (h : ∀ c ∈ s, c ≠ '"' ∧ c ≠ '\\' ∧ isCtl c = false) :
    s.flatMap escapeChar = s := by
  induction s with
  | nil => rfl
  | cons c s ih =>
    have hc := h c (by simp)
    simp [escapeChar, hc.1, hc.2.1, hc.2.2, ih fun d hd => h d (by simp [hd])]

theorem decodeLiteral_plain (s : List Char) (h : ∀ c ∈ s, c ≠ '\'' ∧ isCtl c = false)
    (tail : List Char) : decodeLiteral (s ++ '\'' :: tail) = some (s, tail) := by
  induction s with
  | nil => simp [decodeLiteral]
  | cons c s ih =>
    have hc := h c (by simp)
    have ih' := ih (fun d hd => h d (by simp [hd]))
    simp [decodeLiteral, hc.1, hc.2, ih']

theorem decodeLexeme_basic (c : Char) (rest : List Char) (h : c ≠ '"') :
    decodeLexeme ('"' :: c :: rest) =
      match decodeBasic ((c :: rest).length + 1) (c :: rest) with
      | some (s, []) => .str s
      | _ => .invalid := by
  -- the five arms of `decodeLexeme`: `"""`, `'''`, a basic string, a literal string, anything else
  unfold decodeLexeme
  split
  · next heq => cases heq; exact absurd rfl h
  · next heq => cases heq
  · next heq => cases heq; rfl
  · next heq => cases heq
  · next h3 _ => exact absurd rfl (h3 _)

theorem decodeLexeme_literal (c : Char) (rest : List Char) (h : c ≠ '\'') :
    decodeLexeme ('\'' :: c :: rest) =
      match decodeLiteral (c :: rest) with
      | some (s, []) => .str s
      | _ => .invalid := by
  unfold decodeLexeme
  split
  · next heq => cases heq
  · next heq => cases heq; exact absurd rfl h
  · next heq => cases heq
  · next heq => cases heq; rfl
  · next _ h4 => exact absurd rfl (h4 _)

/-- the reverse-proxy section is there and does not validate -/
def rpInvalid : Option (Nat × List Char) → Bool
  | some (p, m) => !reverseProxyValid p m
  | none => false

theorem rpInvalid_iff (rp : Option (Nat × List Char)) :
    rpInvalid rp = true ↔ ∃ p m, rp = some (p, m) ∧ (p = 0 ∨ m = [] ∨ m.head? ≠ some '/') := by
  cases rp with
  | none => simp [rpInvalid]
  | some pm =>
    obtain ⟨p, m⟩ := pm
    simp only [rpInvalid, reverseProxyValid, Option.some.injEq, Prod.mk.injEq]
    exact ⟨fun h => ⟨p, m, ⟨rfl, rfl⟩, by simpa [or_assoc] using h⟩, fun ⟨_, _, ⟨rfl, rfl⟩, h⟩ => by simpa [or_assoc] using h⟩

/-- `validate` reports the first of its four checks that fails, so it refuses iff one of them does -/
theorem validate_isSome (c : ListenCfg) : (validate c).isSome =
    ((c.addrUnspecified && c.port == 0) || (rpInvalid c.reverseProxy ||
      ((!c.http1 && !c.http2 && !c.quic) || (c.nClients == 0 && !c.addrLoopback)))) := by
  unfold validate rpInvalid
  cases c.reverseProxy <;>
    simp only [apply_ite Option.isSome, Option.isSome_some, Option.isSome_none, Bool.if_true_left, Bool.if_false_right,
      Bool.and_true, Bool.decide_eq_true, Bool.false_or]

end TT.Creds
