import TT.Model.H1
/-!
For C08.  `listenWaiting` takes one read at a time (`listen_cons`); under `PrefixConsistent` a read that leaves the head
short goes on and the one that completes it answers, so each outcome is an induction over the reads, from any buffer.
`readLines` takes back what the response encoder wrote one line at a time (`readLines_line`).
-/
namespace TT.H1
open TT

theorem headCap_pos : 0 < headCap := by decide

theorem takeWhile_eq_self {α : Type} {p : α → Bool} {l : List α} (h : ∀ a ∈ l, p a = true) : l.takeWhile p = l := by
  simpa using List.takeWhile_append_of_pos (l₂ := []) h

theorem splitLine_cons {a : Nat} (t : Bytes) (ha : a ≠ 13) :
    splitLine (a :: t) = (splitLine t).map fun (l, r) => (a :: l, r) := by
  cases t with
  | nil => rfl
  | cons b t =>
    rw [splitLine, if_neg (by simp [ha])]
    cases splitLine (b :: t) <;> rfl

theorem splitLine_crlf (l rest : Bytes) (h : ∀ x ∈ l, x ≠ 13) :
    splitLine (l ++ 13 :: 10 :: rest) = some (l, rest) := by
  induction l with
  | nil => rfl
  | cons a l ih =>
    obtain ⟨ha, hl⟩ := List.forall_mem_cons.1 h
    rw [List.cons_append, splitLine_cons _ ha, ih hl]
    rfl

theorem readLines_line (fuel : Nat) (l tail rest : Bytes) (h : ∀ x ∈ l, x ≠ 13) (hne : l ≠ []) :
    readLines (fuel + 1) (l ++ crlf ++ tail ++ rest) =
      (readLines fuel (tail ++ rest)).map fun (ls, r) => (l :: ls, r) := by
  rw [List.append_assoc, List.append_assoc]
  show readLines (fuel + 1) (l ++ 13 :: 10 :: (tail ++ rest)) = _
  rw [readLines, splitLine_crlf l _ h]
  cases l with
  | nil => exact absurd rfl hne
  | cons a l =>
    dsimp only [List.isEmpty_cons]
    cases readLines fuel (tail ++ rest) <;> rfl

theorem readLines_headers (headers : List (Bytes × Bytes)) (rest : Bytes)
    (hh : ∀ h ∈ headers, (∀ x ∈ h.1 ++ h.2, x ≠ 13) ∧ h.1 ≠ []) :
    readLines (headers.length + 1) (encodeHeaders headers ++ rest) =
      some (headers.map (fun h => h.1 ++ [58, 32] ++ h.2), rest) := by
  induction headers with
  | nil => rfl
  | cons h hs ih =>
    obtain ⟨n, v⟩ := h
    obtain ⟨hcr, hn⟩ := hh (n, v) List.mem_cons_self
    obtain ⟨hcn, hcv⟩ := List.forall_mem_append.1 hcr
    have hl : ∀ x ∈ n ++ [58, 32] ++ v, x ≠ 13 :=
      List.forall_mem_append.2 ⟨List.forall_mem_append.2 ⟨hcn, by decide⟩, hcv⟩
    rw [encodeHeaders, readLines_line _ _ _ _ hl (by simp), List.length_cons,
      ih fun h hm => hh h (List.mem_cons_of_mem _ hm)]
    rfl

theorem listen_cons (p : Parser) (buf : Bytes) {r : Bytes} (rs : List Bytes) (hr : r ≠ []) :
    listenWaiting p buf (r :: rs) =
      match p.parse (buf ++ r) with
      | .complete idx => .request ((buf ++ r).take idx) ((buf ++ r).drop idx) rs
      | .incomplete => if (buf ++ r).length < headCap then listenWaiting p (buf ++ r) rs else .error
      | .error => .error := by
  rw [listenWaiting, if_neg (by cases r <;> simp_all)]
  rfl

variable {p : Parser} (hp : PrefixConsistent p) {head : Bytes} (hh : p.parse head = .complete head.length)
include hp hh

theorem listen_cons_prefix (hl : head.length ≤ headCap) {buf r : Bytes} (rs : List Bytes) (hr : r ≠ [])
    (hpre : buf ++ r <+: head) (hlt : (buf ++ r).length < head.length) :
    listenWaiting p buf (r :: rs) = listenWaiting p (buf ++ r) rs := by
  have hpi : p.parse (buf ++ r) = .incomplete :=
    List.prefix_iff_eq_take.1 hpre ▸ (hp head head.length hh).2.2.2 _ hlt
  rw [listen_cons p buf rs hr, hpi]
  exact if_pos (Nat.lt_of_lt_of_le hlt hl)

theorem listen_cons_complete {buf r : Bytes} (rs : List Bytes) (hr : r ≠ []) {tail : Bytes}
    (hpre : buf ++ r = head ++ tail) : listenWaiting p buf (r :: rs) = .request head tail rs := by
  rw [listen_cons p buf rs hr, hpre, (hp head head.length hh).2.2.1 tail]
  simp only [List.take_left', List.drop_left']

theorem listen_request (hl : head.length ≤ headCap) {payload : Bytes}
    {reads : List Bytes} (hne : ∀ r ∈ reads, r ≠ []) (buf : Bytes)
    (hs : buf ++ reads.flatten = head ++ payload) (hb : buf.length < head.length) :
    ∃ tail rest, listenWaiting p buf reads = .request head tail rest ∧
      tail ++ rest.flatten = payload := by
  induction reads generalizing buf with
  | nil =>
    have hpre : head <+: buf := ⟨payload, ((List.append_nil buf).symm.trans hs).symm⟩
    exact absurd hpre.length_le (Nat.not_le.2 hb)
  | cons r rs ih =>
    have hs' : (buf ++ r) ++ rs.flatten = head ++ payload := (List.append_assoc ..).trans hs
    obtain ⟨hr, hne⟩ := List.forall_mem_cons.1 hne
    by_cases hlt : (buf ++ r).length < head.length
    · rw [listen_cons_prefix hp hh hl rs hr
        (List.prefix_of_prefix_length_le ⟨_, hs'⟩ (List.prefix_append _ _) (Nat.le_of_lt hlt)) hlt]
      exact ih hne _ hs' hlt
    · obtain ⟨tail, ht⟩ := List.prefix_of_prefix_length_le (List.prefix_append _ _) ⟨_, hs'⟩ (Nat.le_of_not_lt hlt)
      refine ⟨tail, rs, listen_cons_complete hp hh rs hr ht.symm, ?_⟩
      rw [← ht, List.append_assoc] at hs'
      exact List.append_cancel_left hs'

theorem listen_starved (hl : head.length ≤ headCap) {n : Nat} (hn : n < head.length)
    {reads : List Bytes} (hne : ∀ r ∈ reads, r ≠ []) (buf : Bytes)
    (hs : buf ++ reads.flatten = head.take n) :
    listenWaiting p buf reads = .starved (head.take n) := by
  induction reads generalizing buf with
  | nil => exact congrArg Out.starved ((List.append_nil buf).symm.trans hs)
  | cons r rs ih =>
    have hs' : (buf ++ r) ++ rs.flatten = head.take n := (List.append_assoc ..).trans hs
    have hpre : buf ++ r <+: head.take n := ⟨_, hs'⟩
    obtain ⟨hr, hne⟩ := List.forall_mem_cons.1 hne
    rw [listen_cons_prefix hp hh hl rs hr (hpre.trans (List.take_prefix _ _))
      (Nat.lt_of_le_of_lt (Nat.le_trans hpre.length_le (List.length_take_le _ _)) hn)]
    exact ih hne _ hs'

omit hp hh

theorem listen_oversize {p : Parser} {whole : Bytes}
    (hpar : ∀ n, p.parse (whole.take n) = .incomplete) (hl : headCap ≤ whole.length)
    {reads : List Bytes} (hne : ∀ r ∈ reads, r ≠ []) (buf : Bytes)
    (hs : buf ++ reads.flatten = whole) (hb : buf.length < headCap) :
    listenWaiting p buf reads = .error := by
  induction reads generalizing buf with
  | nil =>
    cases (List.append_nil buf).symm.trans hs
    exact absurd hl (Nat.not_le.2 hb)
  | cons r rs ih =>
    have hs' : (buf ++ r) ++ rs.flatten = whole := (List.append_assoc ..).trans hs
    have hpi : p.parse (buf ++ r) = .incomplete := List.prefix_iff_eq_take.1 ⟨_, hs'⟩ ▸ hpar _
    obtain ⟨hr, hne⟩ := List.forall_mem_cons.1 hne
    rw [listen_cons p buf rs hr, hpi]
    dsimp only
    split
    · next hlt => exact ih hne _ hs' hlt
    · rfl

/-- reads that leave the codec waiting can be continued: the later reads are handled from the
buffer the earlier ones left -/
theorem listen_append_of_starved {p : Parser} {reads : List Bytes} (more : List Bytes) {buf b : Bytes}
    (h : listenWaiting p buf reads = .starved b) :
    listenWaiting p buf (reads ++ more) = listenWaiting p b more := by
  induction reads generalizing buf with
  | nil => cases h; rfl
  | cons r rs ih =>
    -- only a read that leaves the head incomplete and below the cap goes on to the next one
    have hr : r ≠ [] := by rintro rfl; cases h
    rw [List.cons_append, listen_cons p buf _ hr]
    rw [listen_cons p buf rs hr] at h
    cases hp : p.parse (buf ++ r) <;> rw [hp] at h <;> dsimp only at h
    case incomplete =>
      by_cases hl : (buf ++ r).length < headCap
      · rw [if_pos hl] at h ⊢; exact ih h
      · rw [if_neg hl] at h; cases h
    all_goals cases h

end TT.H1
