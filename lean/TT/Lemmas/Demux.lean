import TT.Model.Demux
/-!
For C05. `select` refuses an offer of unknown identifiers only, finds the entry the SNI designates (`designatedL`) and
picks the best common protocol that entry's channel permits (`protoFor`): `select_eq`. The rest characterises the parts.
-/
namespace TT.Demux

theorem maxProto_eq_none {l : List Proto} : maxProto l = none ↔ l = [] := by
  fun_cases maxProto l <;> simp_all

theorem maxProto_some {l : List Proto} {p : Proto} (h : maxProto l = some p) :
    p ∈ l ∧ ∀ q ∈ l, q.rank ≤ p.rank := by
  fun_induction maxProto l generalizing p with
  | case1 => cases h
  | case2 x rest hn ih =>
    cases h
    simp [maxProto_eq_none.1 hn]
  | case3 x rest q hq hle ih =>
    cases h
    have ⟨_, hmax⟩ := ih hq
    exact ⟨by simp, List.forall_mem_cons.2 ⟨Nat.le_refl _, fun r hr => Nat.le_trans (hmax r hr) hle⟩⟩
  | case4 x rest q hq hle ih =>
    cases h
    have ⟨hm, hmax⟩ := ih hq
    exact ⟨by simp [hm], List.forall_mem_cons.2 ⟨Nat.le_of_not_le hle, hmax⟩⟩

/-! Protocol selection per channel: one equation for the four channels (`protoFor_eq`: the best of the candidates, else
HTTP/1.1 for an empty offer), then what a selected protocol satisfies and when there is one. -/

/-- the protocols a channel permits (same as `permits` of the property file) -/
def permitsL : Channel → Proto → Bool
  | .reverseProxy, .h2 => false
  | _, _ => true

/-- the protocol selection function used for a host of class `ch` -/
def protoFor (ch : Channel) (enabled parsed : List Proto) (oe : Bool) : Option Proto :=
  match ch with
  | .reverseProxy => selectProtoRproxy enabled parsed oe
  | _ => selectProto enabled parsed oe

/-- the offered protocols that are enabled and permitted on `ch` -/
def candidates (ch : Channel) (enabled parsed : List Proto) : List Proto :=
  parsed.filter (fun x => permitsL ch x && enabled.contains x)

theorem mem_candidates {ch : Channel} {enabled parsed : List Proto} {q : Proto} :
    q ∈ candidates ch enabled parsed ↔ q ∈ parsed ∧ permitsL ch q = true ∧ q ∈ enabled := by
  simp [candidates, List.mem_filter]

theorem rproxy_filter_eq (enabled parsed : List Proto) :
    (parsed.filter (fun x => x == .h1 || x == .h3)).filter (fun x => enabled.contains x) =
      candidates .reverseProxy enabled parsed := by
  rw [List.filter_filter, candidates]
  congr 1
  funext x
  cases x <;> simp [permitsL, Bool.and_comm]

theorem plain_filter_eq (ch : Channel) (hch : ch ≠ .reverseProxy) (enabled parsed : List Proto) :
    parsed.filter (fun x => enabled.contains x) = candidates ch enabled parsed := by
  rw [candidates]
  congr 1
  funext x
  cases ch <;> simp_all [permitsL]

theorem protoFor_eq (ch : Channel) (enabled parsed : List Proto) (oe : Bool) :
    protoFor ch enabled parsed oe =
      match maxProto (candidates ch enabled parsed) with
      | some x => some x
      | none => if enabled.contains .h1 && oe then some .h1 else none := by
  cases ch
  case reverseProxy => simp only [protoFor, selectProtoRproxy, rproxy_filter_eq]; rfl
  case tunnel => simp only [protoFor, selectProto, plain_filter_eq .tunnel (by decide)]; rfl
  case ping => simp only [protoFor, selectProto, plain_filter_eq .ping (by decide)]; rfl
  case speedtest => simp only [protoFor, selectProto, plain_filter_eq .speedtest (by decide)]; rfl

theorem protoFor_some {ch : Channel} {enabled parsed : List Proto} {oe : Bool} {p : Proto}
    (h : protoFor ch enabled parsed oe = some p) :
    (p ∈ parsed ∧ p ∈ enabled ∧ permitsL ch p = true ∧
        ∀ q, q ∈ parsed → q ∈ enabled → permitsL ch q = true → q.rank ≤ p.rank) ∨
      (candidates ch enabled parsed = [] ∧ oe = true ∧ .h1 ∈ enabled ∧ p = .h1) := by
  rw [protoFor_eq] at h
  split at h
  · next x hx =>
    simp only [Option.some.injEq] at h
    subst h
    have ⟨hm, hmax⟩ := maxProto_some hx
    rw [mem_candidates] at hm
    refine Or.inl ⟨hm.1, hm.2.2, hm.2.1, ?_⟩
    intro q hq he hp
    exact hmax q (mem_candidates.2 ⟨hq, hp, he⟩)
  · next hn =>
    split at h
    · next hc =>
      simp only [Option.some.injEq] at h
      simp only [Bool.and_eq_true, List.contains_iff_mem] at hc
      exact Or.inr ⟨maxProto_eq_none.1 hn, hc.2, hc.1, h.symm⟩
    · cases h

theorem protoFor_isSome {ch : Channel} {enabled parsed : List Proto} {oe : Bool} {q : Proto}
    (hq : q ∈ parsed) (he : q ∈ enabled) (hp : permitsL ch q = true) :
    (protoFor ch enabled parsed oe).isSome = true := by
  rw [protoFor_eq]
  split
  · rfl
  · next hn => exact absurd (maxProto_eq_none.1 hn) (List.ne_nil_of_mem (mem_candidates.2 ⟨hq, hp, he⟩))

/-! `select` in one equation, and what an accepted connection (`select`, `tcpAccept`, `quicAccept`) was given. -/

/-- same as `designated` of the property file -/
def designatedL (cfg : Cfg) (sni : String) : Option (Channel × String × Option String) :=
  if cfg.main.contains sni then some (.tunnel, sni, none)
  else if cfg.rproxy.contains sni then some (.reverseProxy, sni, none)
  else if cfg.ping.contains sni then some (.ping, sni, none)
  else if cfg.speed.contains sni then some (.speedtest, sni, none)
  else match cfg.alt.find? (fun e => e.1 == sni && cfg.main.contains e.2) with
    | some e => some (.tunnel, e.2, none)
    | none =>
      match splitOnceDot sni.toList with
      | some (a, b) => if cfg.main.contains (String.ofList b) then some (.tunnel, String.ofList b, some (String.ofList a)) else none
      | none => none

/-- an offer consisting of unknown identifiers only -/
def unknownOnly (alpn : List Alpn) : Bool := (alpn.filterMap id).isEmpty && !alpn.isEmpty

theorem select_eq (cfg : Cfg) (alpn : List Alpn) (sni : String) :
    select cfg alpn sni =
      if unknownOnly alpn then none else
        (designatedL cfg sni).bind fun d =>
          (protoFor d.1 cfg.enabled (alpn.filterMap id) alpn.isEmpty).map fun p =>
            ⟨sni, p, d.1, (d.1, d.2.1), d.2.2⟩ := by
  -- `select` walks the ladder of `designatedL`: on each of its rungs both sides compute to the same value
  unfold select unknownOnly
  fun_cases designatedL cfg sni <;> simp only [*, ↓reduceIte] <;> rfl

theorem mem_parsed {alpn : List Alpn} {q : Proto} : q ∈ alpn.filterMap id ↔ some q ∈ alpn := by
  simp [List.mem_filterMap]

theorem unknownOnly_false_of_mem {alpn : List Alpn} {q : Proto} (h : some q ∈ alpn) :
    unknownOnly alpn = false := by
  simp [unknownOnly, List.ne_nil_of_mem (mem_parsed.2 h)]

theorem select_some {cfg : Cfg} {alpn : List Alpn} {sni : String} {m : Meta}
    (h : select cfg alpn sni = some m) :
    unknownOnly alpn = false ∧ ∃ ch name creds p, designatedL cfg sni = some (ch, name, creds) ∧
      protoFor ch cfg.enabled (alpn.filterMap id) alpn.isEmpty = some p ∧
      m = ⟨sni, p, ch, (ch, name), creds⟩ := by
  rw [select_eq] at h
  split at h
  · cases h
  · next hu =>
    refine ⟨by simpa using hu, ?_⟩
    rw [Option.bind_eq_some_iff] at h
    obtain ⟨⟨ch, name, creds⟩, hd, hp⟩ := h
    rw [Option.map_eq_some_iff] at hp
    obtain ⟨p, hp, hm⟩ := hp
    exact ⟨ch, name, creds, p, hd, hp, hm.symm⟩

theorem tcpAccept_some {cfg : Cfg} {alpn : List Alpn} {sni : Option String} {m : Meta}
    (h : tcpAccept cfg alpn sni = some m) : ∃ s, sni = some s ∧ select cfg alpn s = some m ∧ m.protocol ≠ .h3 := by
  cases sni with
  | none => cases h
  | some s =>
    refine ⟨s, rfl, ?_⟩
    simp only [tcpAccept] at h
    cases hs : select cfg alpn s with
    | none => rw [hs] at h; cases h
    | some m' =>
      rw [hs] at h
      by_cases h3 : m'.protocol = .h3
      · simp [h3] at h
      · simp only [beq_iff_eq, h3, if_false, Option.some.injEq] at h
        exact ⟨congrArg some h, h ▸ h3⟩

/-- a QUIC connection gets what `select` finds for the one protocol QUIC offers, or else the bootstrap meta -/
theorem quicAccept_some {cfg : Cfg} {sni : Option String} {m : Meta} (h : quicAccept cfg sni = some m) :
    (∃ s, select cfg [some .h3] s = some m) ∨ bootstrap cfg = some m := by
  unfold quicAccept at h
  split at h
  · exact .inr h
  · split at h
    · exact .inr h
    · split at h
      · next m' hs => cases h; exact .inl ⟨_, hs⟩
      · exact .inr h

theorem bootstrap_some {cfg : Cfg} {m : Meta} (h : bootstrap cfg = some m) : m.protocol = .h3 := by
  obtain ⟨x, -, rfl⟩ := Option.map_eq_some_iff.1 h
  rfl

theorem namesUnique_iff_nodup (l : List String) : namesUnique l = true ↔ l.Nodup := by
  induction l with
  | nil => simp [namesUnique]
  | cons x l ih => simp [namesUnique, ih]

theorem namesUnique_append_right : ∀ {l1 l2 : List String}, namesUnique (l1 ++ l2) = true →
    namesUnique l2 = true :=
  fun h => (namesUnique_iff_nodup _).2 (List.nodup_append.1 ((namesUnique_iff_nodup _).1 h)).2.1

theorem filterMap_id_filter_isSome (alpn : List Alpn) :
    (alpn.filter Option.isSome).filterMap id = alpn.filterMap id := by
  induction alpn with
  | nil => rfl
  | cons a r ih => cases a <;> simp [ih]

/-- (despite its name: the `reload` equation of `run`) -/
theorem run_length_reload (enabled : List Proto) (rp : Bool) (cur : Cfg) (h : HostsSettings) (rest : List Ev) :
    run enabled rp cur (.reload h :: rest) = run enabled rp (reload enabled rp cur h).1 rest := rfl

theorem run_select (enabled : List Proto) (rp : Bool) (cur : Cfg) (a : List Alpn) (s : String) (rest : List Ev) :
    run enabled rp cur (.select a s :: rest) = select cur a s :: run enabled rp cur rest := rfl

end TT.Demux
