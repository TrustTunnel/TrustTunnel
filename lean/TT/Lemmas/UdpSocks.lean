import TT.Model.UdpSocks
import TT.Lemmas.UdpFlows
/-!
The SOCKS5 variant of the UDP multiplexer: the flow table of `TT.UdpFlows` against a table of
associations, one per client source. The invariant `Inv` says the flows the associations hold are
the flows of the table; it is kept by the three ways the two tables change together (a flow is
closed, joins an association, opens one), and expiry is closing the expired flows one by one.
-/
namespace TT.UdpSocks
open TT.UdpFlows (Meta Cfg Op Obs PipeEntry touchIn setPeer Routed touchIn_key)
open Keyed

theorem meta_eq_iff {m m' : Meta} (hs : m'.src = m.src) : m' = m ↔ m'.dst = m.dst := by
  cases m; cases m'; simp at hs; simp [hs]

/-! The two ways an association list changes entry by entry (a flow is closed, a flow joins), and which flows the
associations hold afterwards. -/

/-- `closeFlow` on one association -/
def closeF (m : Meta) (a : Assoc) : Option Assoc :=
  if a.src == m.src then
    let ps := a.peers.filter (· != m.dst)
    if ps.isEmpty then none else some { a with peers := ps }
  else some a

/-- `on_new_udp_connection` joining an existing association -/
def joinF (m : Meta) (a : Assoc) : Assoc :=
  if a.src == m.src && !a.peers.contains m.dst then { a with peers := a.peers ++ [m.dst] } else a

theorem closeFlow_eq (s : St) (m : Meta) :
    closeFlow s m = { s with assocs := s.assocs.filterMap (closeF m) } := rfl

theorem closeF_eq_some_iff {m : Meta} {a a' : Assoc} :
    closeF m a = some a' ↔
      (a.src = m.src ∧ a.peers.filter (· != m.dst) ≠ [] ∧
        { a with peers := a.peers.filter (· != m.dst) } = a') ∨ (a.src ≠ m.src ∧ a = a') := by
  unfold closeF
  by_cases h : a.src = m.src
  · by_cases h2 : a.peers.filter (· != m.dst) = [] <;> simp [h, h2]
  · simp [h]

theorem closeF_src {m : Meta} {a a' : Assoc} (h : closeF m a = some a') : a'.src = a.src := by
  rcases closeF_eq_some_iff.1 h with ⟨_, _, rfl⟩ | ⟨_, rfl⟩ <;> rfl

theorem closeF_id {m : Meta} {a a' : Assoc} (h : closeF m a = some a') : a'.id = a.id := by
  rcases closeF_eq_some_iff.1 h with ⟨_, _, rfl⟩ | ⟨_, rfl⟩ <;> rfl

theorem joinF_src (m : Meta) (a : Assoc) : (joinF m a).src = a.src := by
  unfold joinF; split <;> rfl

theorem joinF_id (m : Meta) (a : Assoc) : (joinF m a).id = a.id := by
  unfold joinF; split <;> rfl

theorem mem_joinF_peers (m : Meta) (a : Assoc) (x : Nat) :
    x ∈ (joinF m a).peers ↔ x ∈ a.peers ∨ (a.src = m.src ∧ x = m.dst) := by
  unfold joinF
  by_cases h : a.src = m.src <;> by_cases h2 : m.dst ∈ a.peers <;> simp [h, h2]
  · -- `a` is of that source and has the peer already: nothing is appended
    exact fun hx => hx ▸ h2

/-- flow `m` is held by some association -/
def Cov (as : List Assoc) (m : Meta) : Prop := ∃ a ∈ as, a.src = m.src ∧ m.dst ∈ a.peers

theorem Cov_close {as : List Assoc} {m m' : Meta} :
    Cov (as.filterMap (closeF m)) m' ↔ Cov as m' ∧ m' ≠ m := by
  unfold Cov
  constructor
  · rintro ⟨a', ha', hs, hd⟩
    obtain ⟨a, ha, hc⟩ := List.mem_filterMap.1 ha'
    rcases closeF_eq_some_iff.1 hc with ⟨h1, _, rfl⟩ | ⟨h1, rfl⟩
    · have hd := List.mem_filter.1 hd
      exact ⟨⟨a, ha, hs, hd.1⟩, mt (meta_eq_iff (hs.symm.trans h1)).1 (by simpa using hd.2)⟩
    · exact ⟨⟨a, ha, hs, hd⟩, fun e => h1 (e ▸ hs)⟩
  · rintro ⟨⟨a, ha, hs, hd⟩, hne⟩
    by_cases h1 : a.src = m.src
    · have hd' : m'.dst ∈ a.peers.filter (· != m.dst) :=
        List.mem_filter.2 ⟨hd, by simpa using mt (meta_eq_iff (hs.symm.trans h1)).2 hne⟩
      exact ⟨_, List.mem_filterMap.2 ⟨a, ha, closeF_eq_some_iff.2 (.inl ⟨h1, List.ne_nil_of_mem hd', rfl⟩)⟩,
        hs, hd'⟩
    · exact ⟨a, List.mem_filterMap.2 ⟨a, ha, closeF_eq_some_iff.2 (.inr ⟨h1, rfl⟩)⟩, hs, hd⟩

theorem Cov_join {as : List Assoc} {m m' : Meta} (h : ∃ a ∈ as, a.src = m.src) :
    Cov (as.map (joinF m)) m' ↔ Cov as m' ∨ m' = m := by
  unfold Cov
  constructor
  · rintro ⟨a', ha', hs, hd⟩
    obtain ⟨a, ha, rfl⟩ := List.mem_map.1 ha'
    rw [joinF_src] at hs
    rcases (mem_joinF_peers m a _).1 hd with hd | ⟨h1, h2⟩
    · exact Or.inl ⟨a, ha, hs, hd⟩
    · exact .inr ((meta_eq_iff (hs.symm.trans h1)).2 h2)
  · rintro (⟨a, ha, hs, hd⟩ | rfl)
    · exact ⟨joinF m a, List.mem_map_of_mem ha, by rw [joinF_src]; exact hs,
        (mem_joinF_peers m a _).2 (Or.inl hd)⟩
    · obtain ⟨a, ha, hs⟩ := h
      exact ⟨joinF m' a, List.mem_map_of_mem ha, by rw [joinF_src]; exact hs,
        (mem_joinF_peers m' a _).2 (Or.inr ⟨hs, rfl⟩)⟩

theorem Cov_open {as : List Assoc} {m m' : Meta} {n : Nat} :
    Cov (as ++ [{ src := m.src, id := n, peers := [m.dst] }]) m' ↔ Cov as m' ∨ m' = m := by
  cases m; cases m'
  simp [Cov, or_and_right, exists_or, eq_comm]

/-! The association part of the invariant, kept by closing, joining and opening. -/

/-- over the three components it reads and not over `St`: `Inv.insert` is given the new table and counter apart -/
structure AInv (as : List Assoc) (seen : List (Meta × Nat)) (n : Nat) : Prop where
  srcNd : (as.map (·.src)).Nodup
  idNd : (as.map (·.id)).Nodup
  good : ∀ a ∈ as, a.id < n ∧ a.peers ≠ [] ∧ a.peers.Nodup
  seenLt : ∀ p ∈ seen, p.2 < n
  /-- ids are never reused: what a server remembers still names an association of that source -/
  world : ∀ p ∈ seen, ∀ a ∈ as, a.id = p.2 → a.src = p.1.src

theorem AInv.nil {seen : List (Meta × Nat)} {n : Nat} (h : ∀ p ∈ seen, p.2 < n) : AInv [] seen n :=
  ⟨.nil, .nil, List.forall_mem_nil _, h, fun _ _ => List.forall_mem_nil _⟩

theorem AInv.close {as seen n} (h : AInv as seen n) (m : Meta) :
    AInv (as.filterMap (closeF m)) seen n where
  srcNd := nodup_filterMap Assoc.src _ (fun _ _ => closeF_src) h.srcNd
  idNd := nodup_filterMap Assoc.id _ (fun _ _ => closeF_id) h.idNd
  good := List.forall_mem_filterMap.2 fun a ha a' hc => by
    have hg := h.good a ha
    rcases closeF_eq_some_iff.1 hc with ⟨_, h2, rfl⟩ | ⟨_, rfl⟩
    · exact ⟨hg.1, h2, List.Nodup.sublist List.filter_sublist hg.2.2⟩
    · exact hg
  seenLt := h.seenLt
  world := fun p hp => List.forall_mem_filterMap.2 fun a ha a' hc hid =>
    closeF_src hc ▸ h.world p hp a ha (closeF_id hc ▸ hid)

theorem joinF_good (m : Meta) (a : Assoc) (h : a.peers ≠ [] ∧ a.peers.Nodup) :
    (joinF m a).peers ≠ [] ∧ (joinF m a).peers.Nodup := by
  unfold joinF
  split
  · next hc =>
    simp only [Bool.and_eq_true, Bool.not_eq_true', List.contains_eq_mem, decide_eq_false_iff_not,
      beq_iff_eq] at hc
    refine ⟨by simp, List.nodup_append.2 ⟨h.2, by simp, fun x hx y hy => ?_⟩⟩
    rw [List.mem_singleton.1 hy]
    exact fun e => hc.2 (e ▸ hx)
  · exact h

theorem AInv.join {as seen n} (h : AInv as seen n) (m : Meta) : AInv (as.map (joinF m)) seen n where
  srcNd := (map_key_map Assoc.src fun a _ => joinF_src m a).symm ▸ h.srcNd
  idNd := (map_key_map Assoc.id fun a _ => joinF_id m a).symm ▸ h.idNd
  good := List.forall_mem_map.2 fun a ha =>
    ⟨joinF_id m a ▸ (h.good a ha).1, joinF_good m a (h.good a ha).2⟩
  seenLt := h.seenLt
  world := fun p hp => List.forall_mem_map.2 fun a ha hid =>
    joinF_src m a ▸ h.world p hp a ha (joinF_id m a ▸ hid)

theorem AInv.open {as seen n} (h : AInv as seen n) (m : Meta) (hn : ∀ a ∈ as, a.src ≠ m.src) :
    AInv (as ++ [{ src := m.src, id := n, peers := [m.dst] }]) seen (n + 1) where
  srcNd := nodup_snoc Assoc.src h.srcNd hn
  idNd := nodup_snoc Assoc.id h.idNd fun a ha => Nat.ne_of_lt (h.good a ha).1
  good := List.forall_mem_append.2 ⟨fun a ha => ⟨Nat.lt_succ_of_lt (h.good a ha).1, (h.good a ha).2⟩,
    List.forall_mem_singleton.2 ⟨Nat.lt_succ_self _, by simp, by simp⟩⟩
  seenLt := fun p hp => Nat.lt_succ_of_lt (h.seenLt p hp)
  -- the new association's id is one no server has seen
  world := fun p hp => List.forall_mem_append.2 ⟨h.world p hp,
    List.forall_mem_singleton.2 fun hid => absurd hid (Nat.ne_of_gt (h.seenLt p hp))⟩

theorem AInv.setSeen {as seen n} (h : AInv as seen n) (m : Meta) {a : Assoc} (ha : a ∈ as)
    (hs : a.src = m.src) : AInv as (setPeer seen m a.id) n :=
  { h with
    seenLt := List.forall_mem_cons.2 ⟨(h.good a ha).1, fun p hp => h.seenLt p (List.mem_filter.1 hp).1⟩
    world := List.forall_mem_cons.2 ⟨fun _ ha' hid => eq_of_nodup_map h.idNd ha' ha hid ▸ hs,
      fun p hp => h.world p (List.mem_filter.1 hp).1⟩ }

structure Inv (s : St) : Prop where
  a : AInv s.assocs s.seenFrom s.nextId
  keyNd : (s.pipe.map (·.key)).Nodup
  coupled : ∀ m, (∃ e ∈ s.pipe, e.key = m) ↔ Cov s.assocs m

theorem inv_init (c : Cfg) : Inv (init c) where
  a := AInv.nil (List.forall_mem_nil _)
  keyNd := .nil
  coupled := by simp [init, Cov]

/-! The invariant looks at the two tables, the servers' memory and the next id only: for a state that differs from
`s` in other fields (`up`, `down`, the clock), `{ h with }` checks each field of `h : Inv s` again, up to unfolding. -/

theorem Inv.close {s : St} (h : Inv s) (m : Meta) : Inv (closeFlow (removePipe s m) m) where
  a := h.a.close m
  keyNd := nodup_filter PipeEntry.key _ h.keyNd
  coupled := fun m' => by
    show (∃ e ∈ s.pipe.filter (·.key != m), e.key = m') ↔ Cov (s.assocs.filterMap (closeF m)) m'
    rw [Cov_close, ← h.coupled m']
    simp only [mem_remove PipeEntry.key]
    exact ⟨fun ⟨e, he, hk⟩ => ⟨⟨e, he.1, hk⟩, hk ▸ he.2⟩, fun ⟨⟨e, he, hk⟩, hne⟩ => ⟨e, ⟨he, hk ▸ hne⟩, hk⟩⟩

theorem Inv.mapPipe {s : St} (h : Inv s) (g : PipeEntry → PipeEntry) (hg : ∀ x ∈ s.pipe, (g x).key = x.key) :
    Inv { s with pipe := s.pipe.map g } := by
  have hk := map_key_map PipeEntry.key hg
  refine ⟨h.a, hk ▸ h.keyNd, fun m' => ?_⟩
  rw [← h.coupled m']
  show (∃ e ∈ s.pipe.map g, e.key = m') ↔ _
  simp only [← List.mem_map (f := PipeEntry.key), hk]

theorem Inv.setSeen {s : St} (h : Inv s) (m : Meta) {a : Assoc} (ha : a ∈ s.assocs) (hs : a.src = m.src) :
    Inv { s with seenFrom := setPeer s.seenFrom m a.id } :=
  ⟨h.a.setSeen m ha hs, h.keyNd, h.coupled⟩

/-- a new flow `m` enters both tables: `as'` is the association table with `m` added -/
theorem Inv.insert {s : St} (h : Inv s) {m : Meta} {e : PipeEntry} (he : e.key = m)
    (hn : hasPipe s m = false) {as' : List Assoc} {n' : Nat} (ha : AInv as' s.seenFrom n')
    (hc : ∀ m', Cov as' m' ↔ Cov s.assocs m' ∨ m' = m) :
    Inv { s with assocs := as', nextId := n', pipe := e :: s.pipe } where
  a := ha
  keyNd := nodup_cons PipeEntry.key he hn h.keyNd
  coupled := fun m' => by
    show (∃ e' ∈ e :: s.pipe, e'.key = m') ↔ Cov as' m'
    rw [hc, ← h.coupled m', or_comm, eq_comm, ← he]
    simp only [List.mem_cons, exists_eq_or_imp]

theorem Inv.hasPipe_iff {s : St} (h : Inv s) (m : Meta) : hasPipe s m = true ↔ Cov s.assocs m := by
  rw [← h.coupled m]; simp [hasPipe]

theorem Inv.peer {s : St} (h : Inv s) {m : Meta} {a : Assoc} (hp : hasPipe s m = true)
    (ha : findAssoc s m.src = some a) : m.dst ∈ a.peers := by
  obtain ⟨ha1, ha2⟩ := find?_key_some Assoc.src ha
  obtain ⟨a', ha', hs', hd'⟩ := (h.hasPipe_iff m).1 hp
  rwa [← eq_of_nodup_map h.a.srcNd ha' ha1 (hs'.trans ha2.symm)]

/-! Expiry: the expired flows are closed one after the other. -/

theorem foldl_close (ks : List Meta) (s : St) :
    ks.foldl (fun s m => closeFlow (removePipe s m) m) s =
      ks.foldl closeFlow { s with pipe := ks.foldl (fun l k => l.filter (·.key != k)) s.pipe } := by
  induction ks generalizing s with
  | nil => rfl
  | cons k ks ih => exact ih _

theorem expire_eq {c : Cfg} {s : St} (hn : (s.pipe.map (·.key)).Nodup) :
    expire c s = ((s.pipe.filter fun e => e.last + c.timeout < s.now).map (·.key)).foldl
      (fun s m => closeFlow (removePipe s m) m) s := by
  rw [foldl_close, foldl_filter_ne PipeEntry.key, ← filter_not hn]
  rfl

theorem findAssoc_close {s : St} (hn : (s.assocs.map (·.src)).Nodup) (m : Meta) (src : Nat) :
    findAssoc (closeFlow s m) src = (findAssoc s src).bind (closeF m) :=
  find?_filterMap hn _ (fun _ _ => closeF_src) src

theorem closeF_other {as : List Assoc} (hn : (as.map (·.src)).Nodup) (m : Meta) :
    SameOff Assoc.src m.src (as.filterMap (closeF m)) as := fun src hne => by
  rw [find?_filterMap hn _ (fun _ _ => closeF_src)]
  cases h : as.find? (·.src == src) with
  | none => rfl
  | some a => exact closeF_eq_some_iff.2 (.inr ⟨fun e => hne ((find?_key_some Assoc.src h).2 ▸ e), rfl⟩)

theorem joinF_other (as : List Assoc) (m : Meta) : SameOff Assoc.src m.src (as.map (joinF m)) as :=
  fun src hne => by
    rw [find?_map Assoc.src _ (joinF_src m)]
    cases h : as.find? (·.src == src) with
    | none => rfl
    | some a =>
      have : a.src ≠ m.src := fun e => hne ((find?_key_some Assoc.src h).2 ▸ e)
      simp [joinF, this]

/-- what every operation short of `close` guarantees -/
structure Ok (s : St) (r : St × Obs) : Prop where
  inv : Inv r.1
  routed : Routed r.2
  fin : r.1.finished = s.finished

theorem Ok.refl {s : St} (h : Inv s) : Ok s (s, {}) := ⟨h, .nil, rfl⟩

/-- a datagram on flow `m` moreover leaves the associations of the other sources alone -/
structure DgOut (m : Meta) (s : St) (r : St × Obs) : Prop extends Ok s r where
  other : SameOff Assoc.src m.src r.1.assocs s.assocs

/-- the operation was prepared by a step from `s` to `s1` that leaves the other sources alone -/
theorem DgOut.of {m : Meta} {s1 s : St} {r : St × Obs} (o : DgOut m s1 r) (hf : s1.finished = s.finished)
    (ho : SameOff Assoc.src m.src s1.assocs s.assocs) : DgOut m s r :=
  ⟨⟨o.inv, o.routed, o.fin.trans hf⟩, o.other.trans ho⟩

theorem sinkWrite_out {c : Cfg} {s : St} {m : Meta} {len : Nat} (h : Inv s) :
    DgOut m s (sinkWrite c s m len) := by
  unfold sinkWrite
  split
  · exact ⟨⟨h.close m, .nil, rfl⟩, closeF_other h.a.srcNd m⟩
  · next a ha =>
    obtain ⟨ha1, ha2⟩ := find?_key_some Assoc.src ha
    split
    case h_1 | h_2 => exact ⟨⟨{ h.setSeen m ha1 ha2 with }, .srv m len, rfl⟩, .rfl⟩
    case h_3 => exact ⟨⟨{ h with }, .nil, rfl⟩, .rfl⟩

theorem stepDg_out {c : Cfg} {s : St} {m : Meta} {len : Nat} (h : Inv s) :
    DgOut m s (stepDg c s m len) := by
  cases hn : hasPipe s m with
  | true =>
    rw [stepDg, if_pos hn]
    exact (sinkWrite_out (h.mapPipe _ fun x _ => by split <;> rfl)).of rfl .rfl
  | false =>
    rw [stepDg, if_neg (hn ▸ Bool.false_ne_true)]
    cases hf : findAssoc s m.src with
    | none =>
      have hno : ∀ a ∈ s.assocs, a.src ≠ m.src := fun a ha => by
        simpa using List.find?_eq_none.1 hf a ha
      exact (sinkWrite_out (h.insert rfl hn (h.a.open m hno) fun _ => Cov_open)).of rfl (.snoc rfl)
    | some a =>
      obtain ⟨ha1, ha2⟩ := find?_key_some Assoc.src hf
      exact (sinkWrite_out (h.insert rfl hn (h.a.join m) fun _ => Cov_join ⟨a, ha1, ha2⟩)).of rfl
        (joinF_other _ m)

/-- what a reply with flow tag `m` does once the association `a` it arrives on is known -/
def replied (s : St) (a : Assoc) (m : Meta) (len : Nat) : St × Obs :=
  let lbl : Meta := { src := a.src, dst := m.dst }
  let s := { s with down := s.down + len }
  let obs : Obs := { cli := [(lbl, m, len)] }
  match s.pipe.find? (·.key == lbl) with
  | none => (s, obs)
  | some e =>
    let (e', done) := touchIn s.now e
    if done then (closeFlow (removePipe s lbl) lbl, obs)
    else ({ s with pipe := s.pipe.map fun x => if x.key == lbl then e' else x }, obs)

/-- the association, if it still exists, from which the server of flow tag `m` last saw that flow come -/
def remembered (s : St) (m : Meta) : Option Assoc :=
  (s.seenFrom.find? (·.1 == m)).bind fun p => s.assocs.find? (·.id == p.2)

theorem stepReply_eq (c : Cfg) (s : St) (m : Meta) (len : Nat) :
    stepReply c s m len =
      if c.kind m.dst = .live ∨ c.kind m.dst = .dns then
        match remembered s m with
        | none => (s, {})
        | some a => replied s a m len
      else (s, {}) := by
  unfold stepReply remembered
  cases s.seenFrom.find? (·.1 == m) with
  | none => cases c.kind m.dst <;> rfl
  | some p => cases s.assocs.find? (·.id == p.2) <;> cases c.kind m.dst <;> rfl

/-- ids are not reused: the association a server remembers is still the one of the flow's source -/
theorem remembered_src {s : St} (h : Inv s) {m : Meta} {a : Assoc} (hr : remembered s m = some a) :
    a.src = m.src := by
  obtain ⟨p, hp, ha⟩ := Option.bind_eq_some_iff.1 hr
  obtain ⟨hp1, hp2⟩ := find?_key_some Prod.fst hp
  obtain ⟨ha1, ha2⟩ := find?_key_some Assoc.id ha
  exact hp2 ▸ h.a.world p hp1 a ha1 ha2

theorem replied_ok {s : St} (h : Inv s) {a : Assoc} {m : Meta} {len : Nat} (ha : a.src = m.src) :
    Ok s (replied s a m len) := by
  have h' : Inv { s with down := s.down + len } := { h with }
  have hr : Routed { cli := [(⟨a.src, m.dst⟩, m, len)] } := ha ▸ .cli m len
  unfold replied
  dsimp only
  split
  · exact ⟨h', hr, rfl⟩
  · next e he =>
    split
    · exact ⟨h'.close _, hr, rfl⟩
    · refine ⟨h'.mapPipe _ fun x _ => ?_, hr, rfl⟩
      split
      · next hx =>
        rw [touchIn_key, (find?_key_some PipeEntry.key he).2]
        exact (by simpa using hx : x.key = _).symm
      · rfl

theorem stepReply_ok {c : Cfg} {s : St} (h : Inv s) (m : Meta) (len : Nat) :
    Ok s (stepReply c s m len) := by
  rw [stepReply_eq]
  split
  · split
    · exact .refl h
    · next a hr => exact replied_ok h (remembered_src h hr)
  · exact .refl h

theorem expire_ok {c : Cfg} {s : St} (h : Inv s) : Ok s (expire c s, {}) := by
  rw [expire_eq h.keyNd]
  exact List.foldlRecOn (motive := fun s' => Ok s (s', {})) _ _ (.refl h)
    fun s' o m _ => ⟨o.inv.close m, .nil, o.fin⟩

theorem stepAdv_ok {c : Cfg} {s : St} (h : Inv s) (ms : Nat) : Ok s (stepAdv c s ms, {}) := by
  unfold stepAdv
  dsimp only
  -- `{ h with }` goes from `s` to `s` at the new time, `{ o.inv with }` from what `expire` leaves of that to the
  -- same state with the timer set
  split
  · have o := expire_ok (c := c) (s := { s with now := s.now + ms }) { h with }
    exact ⟨{ o.inv with }, .nil, o.fin⟩
  · exact ⟨{ h with }, .nil, rfl⟩

theorem step_of_finished {c : Cfg} {s : St} (hf : s.finished = true) (op : Op) : step c s op = (s, {}) :=
  if_pos hf

theorem step_dg {c : Cfg} {s : St} (hf : s.finished = false) (m : Meta) (len : Nat) :
    step c s (.dg m len) = stepDg c s m len := if_neg (Bool.eq_false_iff.1 hf)

theorem step_reply {c : Cfg} {s : St} (hf : s.finished = false) (m : Meta) (len : Nat) :
    step c s (.reply m len) = stepReply c s m len := if_neg (Bool.eq_false_iff.1 hf)

theorem step_adv {c : Cfg} {s : St} (hf : s.finished = false) (ms : Nat) :
    step c s (.adv ms) = (stepAdv c s ms, {}) := if_neg (Bool.eq_false_iff.1 hf)

theorem step_close {c : Cfg} {s : St} (hf : s.finished = false) :
    step c s .close = ({ s with finished := true, pipe := [], assocs := [] }, {}) :=
  if_neg (Bool.eq_false_iff.1 hf)

theorem step_dg_out {c : Cfg} {s : St} (h : Inv s) (m : Meta) (len : Nat) :
    DgOut m s (step c s (.dg m len)) := by
  cases hf : s.finished with
  | true => rw [step_of_finished hf]; exact ⟨.refl h, .rfl⟩
  | false => rw [step_dg hf]; exact stepDg_out h

/-- what any one operation does, whatever the state -/
structure StepOut (s : St) (op : Op) (r : St × Obs) : Prop where
  inv : Inv r.1
  routed : Routed r.2
  fin : op ≠ .close → r.1.finished = s.finished

theorem Ok.step {s : St} {op : Op} {r : St × Obs} (o : Ok s r) : StepOut s op r :=
  ⟨o.inv, o.routed, fun _ => o.fin⟩

theorem step_out {c : Cfg} {s : St} (h : Inv s) (op : Op) : StepOut s op (step c s op) := by
  cases hf : s.finished with
  | true => rw [step_of_finished hf]; exact (Ok.refl h).step
  | false =>
    cases op with
    | dg m len => exact (step_dg_out h m len).toOk.step
    | reply m len => rw [step_reply hf]; exact (stepReply_ok h m len).step
    | adv ms => rw [step_adv hf]; exact (stepAdv_ok h ms).step
    | close =>
      rw [step_close hf]
      exact ⟨⟨AInv.nil h.a.seenLt, .nil, by simp [Cov]⟩, .nil, fun h => absurd rfl h⟩

theorem run_append_fst (c : Cfg) (s : St) (a b : List Op) :
    (run c s (a ++ b)).1 = (run c (run c s a).1 b).1 := by
  induction a generalizing s with
  | nil => rfl
  | cons op a ih => exact ih _

theorem run_append_snd (c : Cfg) (s : St) (a b : List Op) :
    (run c s (a ++ b)).2 = (run c s a).2 ++ (run c (run c s a).1 b).2 := by
  induction a generalizing s with
  | nil => rfl
  | cons op a ih => simp [run, ih]

/-- what `StepOut` says of one operation, of a history -/
structure RunOut (s : St) (ops : List Op) (r : St × List Obs) : Prop where
  inv : Inv r.1
  routed : ∀ o ∈ r.2, Routed o
  fin : (∀ op ∈ ops, op ≠ .close) → r.1.finished = s.finished

theorem run_out {c : Cfg} {s : St} (h : Inv s) (ops : List Op) : RunOut s ops (run c s ops) := by
  induction ops generalizing s with
  | nil => exact ⟨h, List.forall_mem_nil _, fun _ => rfl⟩
  | cons op ops ih =>
    have o := step_out (c := c) h op
    have r := ih o.inv
    exact ⟨r.inv, List.forall_mem_cons.2 ⟨o.routed, r.routed⟩, fun hc =>
      (r.fin fun x hx => hc x (List.mem_cons_of_mem _ hx)).trans (o.fin (hc op List.mem_cons_self))⟩

/-- the state after a history -/
def after (c : Cfg) (ops : List Op) : St := (runFrom c ops).1

theorem runFrom_inv (c : Cfg) (ops : List Op) : Inv (after c ops) := (run_out (inv_init c) ops).inv

end TT.UdpSocks
