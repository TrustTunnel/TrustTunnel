import TT.Model.Rules
namespace TT.Rules
open TT

theorem maskedEq_eq_all {n : Nat} {r m p : Bytes} (hr : n ≤ r.length) (hm : n ≤ m.length) (hp : n ≤ p.length) :
    maskedEq n r m p =
      (List.range n).all (fun i => (r.getD i 0 &&& m.getD i 0) == (p.getD i 0 &&& m.getD i 0)) := by
  induction n generalizing r m p with
  | zero => simp [maskedEq]
  | succ k ih =>
    match r, m, p, hr, hm, hp with
    | r0 :: rs, m0 :: ms, p0 :: ps, hr, hm, hp =>
      simp only [List.length_cons, Nat.add_le_add_iff_right] at hr hm hp
      rw [List.range_succ_eq_map]
      simp only [maskedEq, List.all_cons, List.all_map, List.getD_cons_zero]
      rw [ih hr hm hp]
      congr 1

theorem find?_matches_none {rules : List Rule} {ip : Addr} {random : Option Bytes}
    (h : ∀ q ∈ rules, q.matches ip random = false) : rules.find? (fun q => q.matches ip random) = none :=
  List.find?_eq_none.2 fun q hq => by simp [h q hq]

/-- when a client random is at hand, or no rule asks for one, the verdict is that of the first matching rule -/
theorem evaluate_eq_firstMatch {rules : List Rule} {random : Option Bytes}
    (h : random.isSome ∨ ∀ q ∈ rules, q.pattern = none) (ip : Addr) : evaluate rules ip random = firstMatch rules ip random := by
  rcases h with h | h
  · cases random <;> simp_all [evaluate]
  · have : rules.any (fun q => q.pattern.isSome) = false := by
      rw [List.any_eq_false]; intro q hq; simp [h q hq]
    simp [evaluate, this]

end TT.Rules
