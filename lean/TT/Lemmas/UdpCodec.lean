import TT.Model.UdpCodec
import TT.Lemmas.Icmp
/-! Lemmas for C06 (UDP codec).

The decoder is a state machine over fields (`want`: how many bytes a state waits for) behind a
reassembly buffer that is transparent: `decodeOnce` sees only `buffer ++ data`, and so does the
reference decoder resumed from a state (`specFrom_buffer`).  Input that ends before the field does is
kept, or counted off while dropping (`decodeOnce_need`); what a complete field does is `FedOK`
(`decodeOnce_got`): these two read the code of the states.  One `decodeOnce` (`once_ok`), the chunk loop
and the stream follow from them; the states are looked at once more for the end of the input (`specFrom_nil`). -/
namespace TT.Udp
open TT TT.Bytes TT.Icmp

theorem bufferedRead_eq {buffer input : Bytes} {cap : Nat} (h : buffer.length < cap ∨ buffer = []) :
    bufferedRead buffer input cap =
      if (buffer ++ input).length < cap then .need (buffer ++ input)
      else .got ((buffer ++ input).take cap) ((buffer ++ input).drop cap) := by
  obtain ⟨hle, hassert⟩ : buffer.length ≤ cap ∧ ¬ (!(buffer.length < cap || cap == 0)) = true := by
    rcases h with h | rfl
    · exact ⟨Nat.le_of_lt h, by simp [h]⟩
    · exact ⟨Nat.zero_le cap, by simp⟩
  unfold bufferedRead
  simp only [if_neg hassert, fill_take hle, fill_drop hle]
  exact filled_cases _ cap BR.panic .need .got

theorem parseSock_ok (h : Bytes) (hl : 18 ≤ h.length) : ∃ v, parseSock h = .ok (v, h.drop 18) := by
  obtain ⟨ip, h1⟩ := getFixedIp_ok h (by omega)
  obtain ⟨p, h2⟩ := getU16_ok (h.drop 16) (by rw [List.length_drop]; omega)
  exact ⟨⟨ip, p⟩, by simp only [parseSock, h1, h2, List.drop_drop]⟩

theorem parseSock_append {h r : Bytes} {v : Ip.Sock} (hp : parseSock h = .ok (v, r)) (x : Bytes) :
    parseSock (h ++ x) = .ok (v, r ++ x) := by
  unfold parseSock getFixedIp at hp ⊢
  cases hs : splitTo 16 h with
  | panic => rw [hs] at hp; cases hp
  | ok q =>
    rw [hs] at hp
    rw [splitTo_append hs]
    simp only at hp ⊢
    split at hp
    · cases hp
    · next h2 => cases hp; rw [getU16_append h2]

/-- fuel-free reference decoder -/
def spec (s : Bytes) : List Datagram := specDecode (s.length + 1) s

theorem specDecode_eq_spec {F : Nat} {s : Bytes} (h : s.length < F) : specDecode F s = spec s := by
  induction F using Nat.strongRecOn generalizing s with
  | _ F ih =>
    match F, h with
    | F + 1, h =>
      -- one step of both; what is left is shorter than either fuel
      unfold spec specDecode
      split
      · rfl
      · next len rest hget =>
        have := getU32_rest hget
        split
        · rfl
        · rw [ih F (Nat.lt_succ_self F) (by simp; omega), ih s.length h (by simp; omega)]

theorem spec_unfold (s : Bytes) : spec s =
    match getU32 s with
    | .panic => []
    | .ok (len, rest) =>
      if rest.length < len then [] else
      (specRecord len (rest.take len)).toList ++ spec (rest.drop len) := by
  rw [spec, specDecode]
  cases hget : getU32 s with
  | panic => rfl
  | ok p =>
    obtain ⟨len, rest⟩ := p
    have := getU32_rest hget
    simp only []
    split
    · rfl
    · rw [specDecode_eq_spec (by simp; omega)]
      split <;> simp [*]

/-- the 37 header bytes as both decoders read them: two socket addresses and the name length `l`, one of
the bytes (hence `< 256` when they are); `specRecord` of a record that begins with them is decided by `l`
and the bytes `Y` behind them -/
theorem header_ok {header : Bytes} {total : Nat} (h : header.length = hdrNoLen) (ht : hdrNoLen ≤ total) :
    ∃ src dst l, parseSock header = .ok (src, header.drop 18) ∧ parseSock (header.drop 18) = .ok (dst, [l]) ∧
      l ∈ header ∧ ∀ Y, specRecord total (header ++ Y) =
        if total > maxIn - l then none else if total < hdrNoLen + l then none else
        if validUtf8 (Y.take l) then some ⟨src, dst, Y.take l, (Y.drop l).take (total - hdrNoLen - l)⟩ else none := by
  have h37 : hdrNoLen = 37 := rfl
  obtain ⟨src, h1⟩ := parseSock_ok header (by omega)
  obtain ⟨dst, h2⟩ := parseSock_ok (header.drop 18) (by rw [List.length_drop]; omega)
  have hl : ((header.drop 18).drop 18).length = 1 := by simp only [List.length_drop]; omega
  match hr : (header.drop 18).drop 18, hl with
  | [l], _ =>
    rw [hr] at h2
    refine ⟨src, dst, l, h1, h2, List.mem_of_mem_drop (List.mem_of_mem_drop (hr ▸ List.mem_singleton_self l)),
      fun Y => ?_⟩
    have h2' : parseSock (header.drop 18 ++ Y) = .ok (dst, l :: Y) := parseSock_append h2 Y
    simp only [specRecord, parseSock_append h1 Y, h2']
    rw [if_neg (by omega)]

/-- zero-consumption steps still ahead in a state -/
def w : RecvState → Nat
  | .appName 0 => 2
  | .payload 0 => 1
  | .dropping 0 => 1
  | _ => 0

@[simp] theorem w_length : w .length = 0 := rfl
@[simp] theorem w_fixedHeader : w .fixedHeader = 0 := rfl
@[simp] theorem w_appName_zero : w (.appName 0) = 2 := rfl
@[simp] theorem w_payload_zero : w (.payload 0) = 1 := rfl
@[simp] theorem w_dropping_zero : w (.dropping 0) = 1 := rfl
theorem w_le (st : RecvState) : w st ≤ 2 := by
  unfold w; split <;> omega
theorem w_le_of_not_pending {st : RecvState} (h : pendingEmpty st = false) : w st ≤ 1 := by
  unfold w
  split
  · cases h
  all_goals omega
theorem w_payload_le : ∀ k, w (.payload k) ≤ 1
  | 0 => Nat.le_refl 1
  | _ + 1 => Nat.zero_le 1

/-- the buffer is shorter than the field awaited, or empty; the addresses are set once the header is read -/
def SInv (d : Dec) : Prop :=
  match d.st with
  | .length => d.buffer.length < 4
  | .fixedHeader => d.buffer.length < hdrNoLen ∧ hdrNoLen ≤ d.total
  | .appName l => (d.buffer.length < l ∨ (l = 0 ∧ d.buffer = [])) ∧ hdrNoLen + l ≤ d.total ∧ d.src.isSome ∧ d.dst.isSome
  | .payload n => (d.buffer.length < n ∨ d.buffer = []) ∧ d.src.isSome ∧ d.dst.isSome
  | .dropping _ => d.buffer = []

/-- what the reference decoder yields for the rest of the stream, resumed from a decoder state -/
def specFrom (d : Dec) (s : Bytes) : List Datagram :=
  match d.st with
  | .length => spec (d.buffer ++ s)
  | .fixedHeader =>
    if (d.buffer ++ s).length < d.total then [] else
      (specRecord d.total ((d.buffer ++ s).take d.total)).toList ++ spec ((d.buffer ++ s).drop d.total)
  | .appName l =>
    if (d.buffer ++ s).length < d.total - hdrNoLen then [] else
      (match d.src, d.dst with
       | some a, some b =>
         if validUtf8 ((d.buffer ++ s).take l) then
           [⟨a, b, (d.buffer ++ s).take l, ((d.buffer ++ s).drop l).take (d.total - hdrNoLen - l)⟩] else []
       | _, _ => []) ++ spec ((d.buffer ++ s).drop (d.total - hdrNoLen))
  | .payload n =>
    if (d.buffer ++ s).length < n then [] else
      (match d.src, d.dst with
       | some a, some b => [⟨a, b, d.app.getD [], (d.buffer ++ s).take n⟩]
       | _, _ => []) ++ spec ((d.buffer ++ s).drop n)
  | .dropping k => if s.length < k then [] else spec (s.drop k)

/-- bytes a state waits for (or, when dropping, skips) before it moves on -/
def want : RecvState → Nat
  | .length => 4
  | .fixedHeader => hdrNoLen
  | .appName l => l
  | .payload n => n
  | .dropping r => r

theorem SInv.buffer {d : Dec} (h : SInv d) : d.buffer.length < want d.st ∨ d.buffer = [] := by
  obtain ⟨st, total, buffer, src, dst, app⟩ := d
  cases st with
  | length => exact Or.inl h
  | fixedHeader => exact Or.inl h.1
  | appName l => exact h.1.imp id And.right
  | payload n => exact h.1
  | dropping r => exact Or.inr h

theorem specFrom_buffer {d : Dec} (hI : SInv d) (s : Bytes) :
    specFrom d s = specFrom { d with buffer := [] } (d.buffer ++ s) := by
  obtain ⟨st, total, buffer, src, dst, app⟩ := d
  cases st
  case dropping r => cases (show buffer = [] from hI); rfl
  all_goals rfl

/-- the size bounds of `Dec.Inv` (TT/Props/C06.lean), which is `SInv` and `Bnd` together; the simulation needs `SInv` alone -/
def Bnd (d : Dec) : Prop :=
  match d.st with
  | .appName l => l ≤ 255 ∧ d.total ≤ maxIn - l
  | .payload n => n ≤ maxIn
  | _ => True

/-- what one `decodeOnce` on `data` does, whether the field gets complete or not: `d'`, `out` and `tail` are
what it returns -/
structure OnceOK (d : Dec) (data : Bytes) (d' : Dec) (out : Option Datagram) (tail : Bytes) : Prop where
  inv : SInv d'
  /-- a step that gets input whenever its state waits for some makes progress; a byte counts `3` so that
  consuming one outweighs any `w ≤ 2` of the new state -/
  fuel : (want d.st ≠ 0 → data ≠ []) → 3 * tail.length + w d'.st < 3 * data.length + w d.st
  out_length : out.isSome → d'.st = .length
  sim : ∀ s, specFrom d (data ++ s) = out.toList ++ specFrom d' (tail ++ s)
  bnd : Bnd d → (∀ x ∈ d.buffer ++ data, x < 256) → Bnd d'

theorem decodeOnce_need {d : Dec} {data : Bytes} (hI : SInv d) (h : (d.buffer ++ data).length < want d.st) :
    ∃ d', decodeOnce d data = .next d' none [] ∧ OnceOK d data d' none [] := by
  obtain ⟨st, total, buffer, src, dst, app⟩ := d
  have hbr : bufferedRead buffer data (want st) = .need (buffer ++ data) := by
    rw [bufferedRead_eq hI.buffer, if_pos h]
  have hfuel (st' : RecvState) (hg : want st ≠ 0 → data ≠ []) :
      3 * ([] : Bytes).length + w st' < 3 * data.length + w st := by
    have := List.length_pos_iff.2 (hg (Nat.ne_zero_of_lt h))
    have := w_le st'
    simp only [List.length_nil]; omega
  cases st <;> simp only [want] at h hbr
  case payload n =>
    have hl := h
    rw [List.length_append] at hl
    have hm : min data.length (n - buffer.length) = data.length := by omega
    have hc : (buffer.isEmpty && decide (data.length ≥ n)) = false := by simp; omega
    simp only [decodeOnce, hc, hm, List.take_length, List.drop_length, if_pos h]
    exact ⟨_, rfl, ⟨.inl h, hI.2⟩, hfuel _, nofun,
      fun s => by simp only [specFrom, List.append_assoc, Option.toList_none, List.nil_append], fun hb _ => hb⟩
  case dropping r =>
    cases (show buffer = [] from hI)
    rw [List.nil_append] at h
    simp only [decodeOnce, Nat.min_eq_right (Nat.le_of_lt h), List.drop_length, if_neg (Nat.not_le.2 h)]
    refine ⟨_, rfl, rfl, hfuel _, nofun, fun s => ?_, fun hb _ => hb⟩
    simp only [specFrom, List.length_append, Option.toList_none, List.nil_append]
    rw [drop_append_ge (Nat.le_of_lt h)]
    exact ite_cond_congr (propext (by omega))
  -- the other three states are a `bufferedRead`
  all_goals
    simp only [decodeOnce, hbr]
    refine ⟨_, rfl, ?_, hfuel _, nofun,
      fun s => by simp only [specFrom, List.append_assoc, Option.toList_none, List.nil_append], fun hb _ => hb⟩
  case length => exact h
  case fixedHeader => exact ⟨h, hI.2⟩
  case appName => exact ⟨.inl h, hI.2⟩

/-- what a complete field `f` does: `d'` and `out` are the decoder and the datagram after it -/
structure FedOK (d : Dec) (f : Bytes) (d' : Dec) (out : Option Datagram) : Prop where
  inv : SInv d'
  /-- an empty field consumes no input; the chunk loop still ends because `w` falls -/
  w_lt : want d.st = 0 → w d'.st < w d.st
  out_length : out.isSome → d'.st = .length
  sim : ∀ r, specFrom { d with buffer := [] } (f ++ r) = out.toList ++ specFrom d' r
  bnd : Bnd d → (∀ x ∈ f, x < 256) → Bnd d'

theorem decodeOnce_got {d : Dec} {data f tail : Bytes} (hI : SInv d) (hf : f.length = want d.st)
    (hx : d.buffer ++ data = f ++ tail) : ∃ d' out, decodeOnce d data = .next d' out tail ∧ FedOK d f d' out := by
  obtain ⟨st, total, buffer, src, dst, app⟩ := d
  replace hx : buffer ++ data = f ++ tail := hx
  have hbr : bufferedRead buffer data (want st) = .got f tail := by
    rw [bufferedRead_eq hI.buffer, hx, if_neg (by simp [hf]), List.take_left' hf, List.drop_left' hf]
  cases st <;> simp only [want] at hf hbr
  case length =>
    obtain ⟨t, ht⟩ := getU32_ok f (Nat.le_of_eq hf.symm)
    rw [List.drop_of_length_le (Nat.le_of_eq hf)] at ht
    have hsim : ∀ r, specFrom ⟨.length, total, [], src, dst, app⟩ (f ++ r) =
        if r.length < t then [] else (specRecord t (r.take t)).toList ++ spec (r.drop t) := by
      intro r; simp only [specFrom, List.nil_append]; rw [spec_unfold, getU32_append ht, List.nil_append]
    simp only [decodeOnce, hbr, ht]
    by_cases hT : t ≥ hdrNoLen
    · rw [if_pos hT]
      exact ⟨_, _, rfl, ⟨(by decide : 0 < 37), hT⟩, nofun, nofun, hsim, fun _ _ => trivial⟩
    · rw [if_neg hT]
      refine ⟨_, _, rfl, rfl, nofun, nofun, fun r => ?_, fun _ _ => trivial⟩
      rw [hsim, specRecord, if_pos (Nat.lt_of_not_le hT)]
      simp only [specFrom, Option.toList_none, List.nil_append]
  case fixedHeader =>
    obtain ⟨-, hT⟩ : _ ∧ hdrNoLen ≤ total := hI
    obtain ⟨s, t, l, h1, h2, hmem, hrec⟩ := header_ok hf hT
    have hsim : ∀ r, specFrom ⟨.fixedHeader, total, [], src, dst, app⟩ (f ++ r) =
        if r.length < total - hdrNoLen then [] else
          (specRecord total (f ++ r.take (total - hdrNoLen))).toList ++ spec (r.drop (total - hdrNoLen)) := by
      intro r
      simp only [specFrom, List.nil_append]
      rw [take_append_ge (by omega), drop_append_ge (by omega), hf, List.length_append, hf]
      exact ite_cond_congr (propext (by omega))
    simp only [decodeOnce, hbr, h1, h2, getU8]
    by_cases hA : total > maxIn - l
    · rw [if_pos hA]
      refine ⟨_, _, rfl, rfl, nofun, nofun, fun r => ?_, fun _ _ => trivial⟩
      rw [hsim, hrec, if_pos hA]; simp only [specFrom, Option.toList_none, List.nil_append]
    · by_cases hB : total ≥ hdrNoLen + l
      · rw [if_neg hA, if_pos hB]
        refine ⟨_, _, rfl, ⟨(Nat.eq_zero_or_pos l).symm.imp id (⟨·, rfl⟩), hB, rfl, rfl⟩, nofun, nofun, fun r => ?_,
          fun _ hw => ⟨Nat.le_of_lt_succ (hw l hmem), Nat.le_of_not_lt hA⟩⟩
        rw [hsim, hrec, if_neg hA, if_neg (Nat.not_lt.2 hB), List.take_take, List.drop_take, List.take_take,
          Nat.min_eq_left (by omega), Nat.min_self]
        simp only [specFrom, List.nil_append, Option.toList_none]
        congr 2
        split <;> rfl
      · rw [if_neg hA, if_neg hB]
        refine ⟨_, _, rfl, rfl, nofun, nofun, fun r => ?_, fun _ _ => trivial⟩
        rw [hsim, hrec, if_neg hA, if_pos (Nat.lt_of_not_le hB)]
        simp only [specFrom, Option.toList_none, List.nil_append]
  case appName l =>
    obtain ⟨-, hT, hs, hd⟩ : _ ∧ hdrNoLen + l ≤ total ∧ src.isSome ∧ dst.isSome := hI
    obtain ⟨a, rfl⟩ := Option.isSome_iff_exists.1 hs
    obtain ⟨b, rfl⟩ := Option.isSome_iff_exists.1 hd
    have hsim : ∀ r, specFrom ⟨.appName l, total, [], some a, some b, app⟩ (f ++ r) =
        if r.length < total - hdrNoLen - l then [] else
          (if validUtf8 f then [⟨a, b, f, r.take (total - hdrNoLen - l)⟩] else []) ++
            spec (r.drop (total - hdrNoLen - l)) := by
      intro r
      simp only [specFrom, List.nil_append]
      rw [List.take_left' hf, List.drop_left' hf, drop_append_ge (by omega), hf, List.length_append, hf]
      exact ite_cond_congr (propext (by omega))
    simp only [decodeOnce, hbr]
    by_cases hV : validUtf8 f = true
    · rw [if_pos hV]
      refine ⟨_, _, rfl, ⟨Or.inr rfl, rfl, rfl⟩, ?_, nofun, fun r => ?_, fun hb _ => ?_⟩
      · rintro rfl; exact Nat.lt_succ_of_le (w_payload_le _)
      · rw [hsim, if_pos hV]; simp only [specFrom, Option.toList_none, List.nil_append, Option.getD_some]
      · have : total ≤ maxIn - l := hb.2
        show total - hdrNoLen - l ≤ maxIn; omega
    · rw [if_neg hV]
      refine ⟨_, _, rfl, rfl, ?_, nofun, fun r => ?_, fun _ _ => trivial⟩
      · rintro rfl; exact Nat.lt_succ_of_le (w_le_of_not_pending rfl)
      · rw [hsim, if_neg hV]; simp only [specFrom, Option.toList_none, List.nil_append]
  case payload n =>
    obtain ⟨hb, hs, hd⟩ : (buffer.length < n ∨ buffer = []) ∧ src.isSome ∧ dst.isSome := hI
    obtain ⟨a, rfl⟩ := Option.isSome_iff_exists.1 hs
    obtain ⟨b, rfl⟩ := Option.isSome_iff_exists.1 hd
    have ok : FedOK ⟨.payload n, total, buffer, some a, some b, app⟩ f ⟨.length, total, [], some a, some b, none⟩
        (some ⟨a, b, app.getD [], f⟩) := by
      refine ⟨(by decide : 0 < 4), ?_, fun _ => rfl, fun r => ?_, fun _ _ => trivial⟩
      · rintro rfl; exact Nat.zero_lt_one
      · simp only [specFrom, List.nil_append]
        rw [if_neg (by simp [hf]), List.take_left' hf, List.drop_left' hf]; rfl
    refine ⟨_, _, ?_, ok⟩
    have hbl : buffer.length ≤ n := by
      rcases hb with hb | rfl
      · exact Nat.le_of_lt hb
      · exact Nat.zero_le n
    -- what is moved into the buffer makes it `(buffer ++ data).take n`, which is `f`
    simp only [decodeOnce, fill_take hbl, fill_drop hbl, hx, List.take_left' hf, List.drop_left' hf, hf,
      Nat.lt_irrefl, if_false]
    cases buffer with
    | nil =>
      -- the shortcut for an empty buffer cuts `data` in the same place
      cases (show data = f ++ tail from hx)
      simp only [List.take_left' hf, List.drop_left' hf, ite_self]
    | cons => rfl
  case dropping k =>
    cases (show buffer = [] from hI)
    rw [List.nil_append] at hx
    subst hx
    simp only [decodeOnce, List.length_append, hf, Nat.min_eq_left (Nat.le_add_right k _), Nat.le_refl, if_true, List.drop_left' hf]
    refine ⟨_, _, rfl, (by decide : 0 < 4), ?_, nofun, fun r => ?_, fun _ _ => trivial⟩
    · rintro rfl; exact Nat.zero_lt_one
    · simp only [specFrom]
      rw [if_neg (by simp [hf]), List.drop_left' hf]; rfl

theorem want_pendingEmpty {st : RecvState} (h : pendingEmpty st = true) : want st = 0 := by
  unfold pendingEmpty at h
  split at h
  · rfl
  · rfl
  · cases h

theorem once_ok {d : Dec} (hI : SInv d) (data : Bytes) :
    ∃ d' out tail, decodeOnce d data = .next d' out tail ∧ OnceOK d data d' out tail := by
  by_cases h : want d.st ≤ (d.buffer ++ data).length
  · obtain ⟨f, tail, hx, hf⟩ : ∃ f tail, d.buffer ++ data = f ++ tail ∧ f.length = want d.st :=
      ⟨_, _, (List.take_append_drop ..).symm, List.length_take_of_le h⟩
    obtain ⟨d', out, hstep, ok⟩ := decodeOnce_got hI hf hx
    refine ⟨_, _, _, hstep, ok.inv, fun hg => ?_, ok.out_length, fun s => ?_, fun hb hw => ?_⟩
    · -- the field took input, or it was empty and `w` falls
      have hl := congrArg List.length hx
      simp only [List.length_append, hf] at hl
      have := w_le d'.st
      have hb : d.buffer.length < want d.st ∨ d.buffer.length = 0 := hI.buffer.imp id (congrArg List.length)
      by_cases h0 : want d.st = 0
      · have := ok.w_lt h0; omega
      · have := List.length_pos_iff.2 (hg h0); omega
    · rw [specFrom_buffer hI, ← List.append_assoc, hx, List.append_assoc, ok.sim]
    · exact ok.bnd hb fun x hxf => hw x (hx ▸ List.mem_append_left _ hxf)
  · obtain ⟨d', hstep⟩ := decodeOnce_need hI (Nat.lt_of_not_le h)
    exact ⟨d', none, [], hstep⟩

def ChunkPost (d : Dec) (data : Bytes) : Chunk → Prop
  | .panic => False
  | .wantMore d' => SInv d' ∧ pendingEmpty d'.st = false ∧ ∀ s, specFrom d (data ++ s) = specFrom d' s
  | .complete d' dg tail => SInv d' ∧ d'.st = .length ∧ 3 * tail.length < 3 * data.length + w d.st ∧
      ∀ s, specFrom d (data ++ s) = dg :: specFrom d' (tail ++ s)

theorem chunk_ok : ∀ (fuel : Nat) (d : Dec) (data : Bytes), SInv d → 3 * data.length + w d.st + 1 ≤ fuel →
    ChunkPost d data (decodeChunk fuel d data) := by
  intro fuel
  induction fuel with
  | zero => intro d data _ h; omega
  | succ fuel ih =>
    intro d data hI hf
    unfold decodeChunk
    by_cases hstop : (data.isEmpty && !pendingEmpty d.st) = true
    · rw [if_pos hstop]
      simp only [Bool.and_eq_true, List.isEmpty_iff, Bool.not_eq_true'] at hstop
      obtain ⟨rfl, hp⟩ := hstop
      exact ⟨hI, hp, fun s => rfl⟩
    · rw [if_neg hstop]
      have hgo : want d.st ≠ 0 → data ≠ [] := by
        rintro h0 rfl
        exact h0 (want_pendingEmpty (by simpa using hstop))
      obtain ⟨d', out, tail, hstep, ok⟩ := once_ok hI data
      have hm := ok.fuel hgo
      rw [hstep]
      cases out with
      | some dg =>
        have hl := ok.out_length rfl
        rw [hl] at hm
        exact ⟨ok.inv, hl, by simpa using hm, fun s => by simpa using ok.sim s⟩
      | none =>
        -- the postcondition of the rest of the loop, carried back over this step
        show ChunkPost d data (decodeChunk fuel d' tail)
        match decodeChunk fuel d' tail, ih d' tail ok.inv (by omega) with
        | .panic, h => exact h
        | .wantMore _, ⟨h1, h2, h3⟩ => exact ⟨h1, h2, fun s => by rw [ok.sim s, h3 s]; rfl⟩
        | .complete .., ⟨h1, h2, h3, h4⟩ => exact ⟨h1, h2, by omega, fun s => by rw [ok.sim s, h4 s]; rfl⟩

theorem spec_short {s : Bytes} (h : s.length < 4) : spec s = [] := by
  rw [spec_unfold]
  split
  · rfl
  · next hget => have := getU32_rest hget; omega

theorem specFrom_nil {d : Dec} (hI : SInv d) (hp : pendingEmpty d.st = false) : specFrom d [] = [] := by
  obtain ⟨st, total, buffer, src, dst, app⟩ := d
  cases st <;> simp only [specFrom, List.append_nil]
  case length => exact spec_short hI
  case fixedHeader => exact if_pos (Nat.lt_of_lt_of_le hI.1 hI.2)
  case appName l =>
    have hl : l ≠ 0 := by rintro rfl; cases hp
    obtain ⟨hb, hT, -⟩ : (buffer.length < l ∨ l = 0 ∧ buffer = []) ∧ hdrNoLen + l ≤ total ∧ _ := hI
    exact if_pos (by omega)
  case payload n =>
    have hl : n ≠ 0 := by rintro rfl; cases hp
    obtain ⟨hb, -⟩ : (buffer.length < n ∨ buffer = []) ∧ _ := hI
    refine if_pos (hb.elim id ?_)
    rintro rfl; exact Nat.pos_of_ne_zero hl
  case dropping r =>
    split
    · rfl
    · exact spec_short (by simp)

theorem stream_ok (fuel : Nat) (d : Dec) (chunks : List Bytes) (acc : List Datagram) (hI : SInv d)
    (hp : pendingEmpty d.st = false) (hf : 2 * chunks.length + chunks.flatten.length + w d.st ≤ fuel) :
    ∃ d', decodeStream fuel d chunks acc = some (acc.reverse ++ specFrom d chunks.flatten, d') := by
  induction fuel generalizing d chunks acc with
  | zero =>
    obtain rfl : chunks = [] := List.eq_nil_of_length_eq_zero (by omega)
    exact ⟨d, by simp [decodeStream, specFrom_nil hI hp]⟩
  | succ fuel ih =>
    cases chunks with
    | nil => exact ⟨d, by simp [decodeStream, specFrom_nil hI hp]⟩
    | cons chunk rest =>
      -- `w ≤ 2` is why the model's `chunkFuel`, `3 * chunk.length + 3`, is enough for `chunk_ok`
      have hwd := w_le d.st
      simp only [List.length_cons, List.flatten_cons, List.length_append] at hf
      simp only [decodeStream]
      match decodeChunk (chunkFuel chunk) d chunk,
        chunk_ok (chunkFuel chunk) d chunk hI (by simp only [chunkFuel]; omega) with
      | .panic, hc => exact hc.elim
      | .wantMore d', ⟨h1, h2, h3⟩ =>
        -- a chunk counts `2` because taking one may leave `w` one higher
        obtain ⟨d'', hd''⟩ := ih d' rest acc h1 h2 (by have := w_le_of_not_pending h2; omega)
        exact ⟨d'', by simp only [hd'', List.flatten_cons, h3]⟩
      | .complete d' dg tail, ⟨h1, h2, h3, h4⟩ =>
        obtain ⟨hflat, hlen⟩ := requeue tail rest
        -- a re-queued tail as long as the chunk is paid for by `w`
        obtain ⟨d'', hd''⟩ := ih d' _ (dg :: acc) h1 (by rw [h2]; rfl) (by
          rw [hflat, h2, List.length_append, w_length]; omega)
        exact ⟨d'', by simp only [hd'', List.flatten_cons, h4, hflat]; simp⟩

/-! ### what the client encodes is a record the reference decoder accepts -/

theorem specDecode_record {len : Nat} {body : Bytes} (hl : len < 4294967296) (hb : body.length = len)
    (rest : Bytes) (fuel : Nat) :
    specDecode (fuel + 1) (u32be len ++ body ++ rest) =
      (specRecord len body).toList ++ specDecode fuel rest := by
  rw [specDecode, List.append_assoc, getU32_u32be hl]
  simp only
  rw [if_neg (by simp; omega), List.take_append_of_le_length (by omega), List.take_of_length_le (by omega),
    List.drop_append_of_le_length (by omega), List.drop_of_length_le (by omega)]
  cases specRecord len body <;> simp

/-- well-formed datagrams: what 6.3 can carry and the endpoint accepts -/
def SockWF (s : Ip.Sock) : Prop :=
  s.port < 65536 ∧
  (match s.ip with
   | .v4 a b c d => a < 256 ∧ b < 256 ∧ c < 256 ∧ d < 256
   | .v6 x => x.s0 < 65536 ∧ x.s1 < 65536 ∧ x.s2 < 65536 ∧ x.s3 < 65536 ∧ x.s4 < 65536 ∧ x.s5 < 65536 ∧
       x.s6 < 65536 ∧ x.s7 < 65536 ∧ ¬ (x.s0 = 0 ∧ x.s1 = 0 ∧ x.s2 = 0 ∧ x.s3 = 0 ∧ x.s4 = 0 ∧ x.s5 = 0))

def Datagram.WF (dg : Datagram) : Prop :=
  SockWF dg.src ∧ SockWF dg.dst ∧ dg.app.length ≤ 255 ∧ validUtf8 dg.app = true ∧
  hdrNoLen + dg.app.length + dg.payload.length ≤ maxIn - dg.app.length

theorem parseSock_put {s : Ip.Sock} (h : SockWF s) (r : Bytes) :
    parseSock (putFixedIp s.ip ++ (u16be s.port ++ r)) = .ok (s, r) := by
  -- the address part of `SockWF` is `IpWF`, written out
  obtain ⟨hp, (hip : IpWF s.ip)⟩ := h
  simp only [parseSock, getFixedIp_put hip, getU16_u16be hp]

/-- the record body the client writes after the length field -/
def encBody (dg : Datagram) : Bytes :=
  putFixedIp dg.src.ip ++ (u16be dg.src.port ++ (putFixedIp dg.dst.ip ++ (u16be dg.dst.port ++
    (dg.app.length :: (dg.app ++ dg.payload)))))

theorem encodeIn_eq (dg : Datagram) :
    encodeIn dg = u32be (hdrNoLen + dg.app.length + dg.payload.length) ++ encBody dg := by
  simp [encodeIn, encBody]

theorem encBody_length (dg : Datagram) : (encBody dg).length = hdrNoLen + dg.app.length + dg.payload.length := by
  simp [encBody, putFixedIp_length, u16be, hdrNoLen]; omega

theorem specRecord_encBody {dg : Datagram} (h : dg.WF) :
    specRecord (hdrNoLen + dg.app.length + dg.payload.length) (encBody dg) = some dg := by
  obtain ⟨hs, hd, -, hu, hl⟩ := h
  simp only [specRecord, encBody, parseSock_put hs, parseSock_put hd]
  have h3 : hdrNoLen + dg.app.length + dg.payload.length - hdrNoLen - dg.app.length = dg.payload.length := by omega
  rw [if_neg (by omega), if_neg (by omega), if_neg (by omega), List.take_left, List.drop_left, if_pos hu, h3,
    List.take_length]

theorem specDecode_encodeIn {dg : Datagram} (h : dg.WF) (rest : Bytes) (fuel : Nat) :
    specDecode (fuel + 1) (encodeIn dg ++ rest) = dg :: specDecode fuel rest := by
  have hlen : hdrNoLen + dg.app.length + dg.payload.length < 4294967296 := by
    obtain ⟨-, -, -, -, hl⟩ := h
    have : maxIn = 65471 := rfl
    omega
  rw [encodeIn_eq, specDecode_record hlen (encBody_length dg), specRecord_encBody h]
  rfl

theorem encodeIn_flatten_length (dgs : List Datagram) : dgs.length ≤ (dgs.map encodeIn).flatten.length := by
  induction dgs with
  | nil => simp
  | cons dg dgs ih =>
    simp only [List.map_cons, List.flatten_cons, List.length_cons, List.length_append, encodeIn_eq, u32be]
    omega

end TT.Udp
