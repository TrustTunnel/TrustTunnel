-- root of the `TT` library: every property file (which pulls in its models and lemmas)
import TT.Lemmas.Range
import TT.Props.C01
import TT.Props.C02
import TT.Props.C03
import TT.Props.C04
import TT.Props.C05
import TT.Props.C06
import TT.Props.C07
import TT.Props.C08
import TT.Props.C09
import TT.Props.C10
import TT.Props.C11
import TT.Props.C12
import TT.Props.C13
import TT.Props.C14
import TT.Props.C15
import TT.Props.C16
import TT.Props.C17
import TT.Props.C18
import TT.Props.C19
import TT.Props.C20
